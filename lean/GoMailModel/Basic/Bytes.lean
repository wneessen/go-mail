/-
  Basic byte-string vocabulary shared by every model.
  Go `string` and `[]byte` are both `Bytes`; nothing is assumed to be UTF-8.
-/
namespace GoMail

abbrev Bytes := List UInt8

def cr : UInt8 := 13
def lf : UInt8 := 10
def crlf : Bytes := [13, 10]

/-- ASCII bytes of a Lean string literal (used for protocol keywords only; every literal in the
    models is ASCII). Defined through `String.toList` so that it reduces in the kernel. -/
def sb (s : String) : Bytes := s.toList.map (fun c => c.toNat.toUInt8)

/-- A string literal is `String.ofList` of its characters. Evaluating `sb` on one makes the kernel decode
    its UTF-8 by well-founded recursion, at a cost quadratic in its length; on a goal that shows long
    literals, `rw [sb_ofList]` before `decide +kernel` spares it that. -/
theorem sb_ofList (l : List Char) : sb (String.ofList l) = l.map (fun c => c.toNat.toUInt8) := by
  simp [sb]

/-- a non-empty literal has bytes (a literal unifies with `String.ofList (c :: l)`) -/
theorem sb_ne_nil (c : Char) (l : List Char) : sb (String.ofList (c :: l)) ≠ [] := by
  rw [sb_ofList]
  exact List.cons_ne_nil _ _

/-- `pre` is a prefix of `xs` (Go `bytes.HasPrefix`). -/
def hasPrefix : Bytes → Bytes → Bool
  | _, [] => true
  | [], _ :: _ => false
  | x :: xs, p :: ps => x == p && hasPrefix xs ps

/-- first index at which `pat` occurs in `xs` (Go `bytes.Index`), `none` if absent. -/
def indexOf (pat : Bytes) : Bytes → Option Nat
  | [] => if pat.isEmpty then some 0 else none
  | x :: xs =>
    if hasPrefix (x :: xs) pat then some 0
    else (indexOf pat xs).map (· + 1)

def containsSub (pat xs : Bytes) : Bool := (indexOf pat xs).isSome

/-- Split on CRLF: `joinCRLF (splitCRLF x) = x` for every `x`. -/
def splitCRLFAux : Bytes → Bytes → List Bytes
  | acc, [] => [acc.reverse]
  | acc, 13 :: 10 :: rest => acc.reverse :: splitCRLFAux [] rest
  | acc, b :: rest => splitCRLFAux (b :: acc) rest

def splitCRLF (xs : Bytes) : List Bytes := splitCRLFAux [] xs

def joinWith (sep : Bytes) : List Bytes → Bytes
  | [] => []
  | [l] => l
  | l :: ls => l ++ sep ++ joinWith sep ls

def joinCRLF (ls : List Bytes) : Bytes := joinWith crlf ls

/-- Go `strings.Split(s, sep)` for a one-byte separator. Always returns at least one piece. -/
def splitOnAux (sep : UInt8) : Bytes → Bytes → List Bytes
  | acc, [] => [acc.reverse]
  | acc, b :: rest => if b == sep then acc.reverse :: splitOnAux sep [] rest else splitOnAux sep (b :: acc) rest

def splitOn (sep : UInt8) (xs : Bytes) : List Bytes := splitOnAux sep [] xs

/-- Go `strings.ReplaceAll(s, old, new)` (non-empty `old`, leftmost non-overlapping). -/
def replaceAll (old new : Bytes) : Bytes → Bytes
  | [] => []
  | x :: xs =>
    if old ≠ [] ∧ hasPrefix (x :: xs) old then
      new ++ replaceAll old new ((x :: xs).drop old.length)
    else x :: replaceAll old new xs
termination_by xs => xs.length
decreasing_by
  all_goals simp_wf
  all_goals (try omega)
  rename_i h
  have : old.length ≥ 1 := by
    cases old with
    | nil => exact absurd rfl h.1
    | cons _ _ => simp
  omega

/-- number of non-overlapping occurrences (Go `strings.Count`, non-empty pattern). -/
def countSub (pat : Bytes) : Bytes → Nat
  | [] => 0
  | x :: xs =>
    if pat ≠ [] ∧ hasPrefix (x :: xs) pat then
      1 + countSub pat ((x :: xs).drop pat.length)
    else countSub pat xs
termination_by xs => xs.length
decreasing_by
  all_goals simp_wf
  all_goals (try omega)
  rename_i h
  have : pat.length ≥ 1 := by
    cases pat with
    | nil => exact absurd rfl h.1
    | cons _ _ => simp
  omega

def hexDigit (n : UInt8) : UInt8 := if n < 10 then 48 + n else 87 + n        -- lower case
def hexDigitU (n : UInt8) : UInt8 := if n < 10 then 48 + n else 55 + n       -- upper case

def toHex : Bytes → Bytes
  | [] => []
  | b :: bs => hexDigit (b >>> 4) :: hexDigit (b &&& 15) :: toHex bs

def unhex (c : UInt8) : Option UInt8 :=
  if 48 ≤ c ∧ c ≤ 57 then some (c - 48)
  else if 97 ≤ c ∧ c ≤ 102 then some (c - 87)
  else if 65 ≤ c ∧ c ≤ 70 then some (c - 55)
  else none

def fromHex : Bytes → Option Bytes
  | [] => some []
  | [_] => none
  | a :: b :: rest =>
    match unhex a, unhex b, fromHex rest with
    | some x, some y, some r => some ((x <<< 4 ||| y) :: r)
    | _, _, _ => none

def natToDec (n : Nat) : Bytes := sb (toString n)

/-- Core finds this instance only after a long failed search through the order classes
    (`Std.LawfulBEqOrd`, ...), and every `beq_iff_eq` on `Bytes` asks for it: named here, it is found at once. -/
instance : LawfulBEq UInt8 := instLawfulBEq

end GoMail
