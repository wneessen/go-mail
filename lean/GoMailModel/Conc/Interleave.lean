/-
  E5: threads of the form `acq ; act* ; rel` over ONE lock, any number of threads, ANY schedule.
  A schedule is an arbitrary list of thread indices; a step that is not enabled aborts the run.
  Theorem: the observable trace is a concatenation of whole per-thread blocks, followed by at most
  one partial block of the current lock holder.
-/
namespace GoMail.Conc

inductive Act (α : Type) | acq | rel | act (a : α)
deriving Repr

structure St (α : Type) where
  progs  : Nat → List (Act α)
  holder : Option Nat
  trace  : List (Nat × α)

def upd {β} (f : Nat → β) (i : Nat) (v : β) : Nat → β := fun j => if j = i then v else f j

/-- one step of thread `i`; `none` when the thread has nothing to do or is blocked -/
def stepThread {α} (i : Nat) (s : St α) : Option (St α) :=
  match s.progs i with
  | [] => none
  | .acq :: rest =>
    match s.holder with
    | none => some { s with progs := upd s.progs i rest, holder := some i }
    | some _ => none
  | .rel :: rest =>
    if s.holder = some i then some { s with progs := upd s.progs i rest, holder := none } else none
  | .act a :: rest =>
    some { s with progs := upd s.progs i rest, trace := s.trace ++ [(i, a)] }

def exec {α} : List Nat → St α → Option (St α)
  | [], s => some s
  | i :: is, s => (stepThread i s).bind (exec is)

/-- the program of a thread that does `body` under the lock -/
def full {α} (body : Nat → List α) (i : Nat) : List (Act α) := .acq :: ((body i).map .act ++ [.rel])

def tag {α} (i : Nat) (l : List α) : List (Nat × α) := l.map (fun a => (i, a))

def blocks {α} (body : Nat → List α) (done : List Nat) : List (Nat × α) :=
  (done.map (fun i => tag i (body i))).flatten

/-- thread `j` has not started or has finished -/
def Idle {α} (body : Nat → List α) (s : St α) (j : Nat) : Prop := s.progs j = full body j ∨ s.progs j = []

/-- invariant of every reachable state: whole blocks, then the part `pre` of the holder's body that has been
    emitted, the rest `post` still being its program; every other thread is idle -/
def Inv {α} (body : Nat → List α) (s : St α) : Prop :=
  (∀ j, s.holder ≠ some j → Idle body s j) ∧ ∃ done,
    match s.holder with
    | none => s.trace = blocks body done
    | some h => ∃ pre post, body h = pre ++ post ∧ s.trace = blocks body done ++ tag h pre ∧
        s.progs h = post.map .act ++ [.rel]

theorem inv_step {α} (body : Nat → List α) (i : Nat) (s s' : St α) (h : Inv body s)
    (hs : stepThread i s = some s') : Inv body s' := by
  obtain ⟨hidle, done, hm⟩ := h
  -- a step of thread `i` leaves the programs of the others alone
  have others : ∀ rest j, j ≠ i → upd s.progs i rest j = s.progs j := fun rest j hj => if_neg hj
  unfold stepThread at hs
  cases hh : s.holder with
  | none =>
    -- every thread is idle: the step is an `acq`
    rw [hh] at hm hs
    rcases hidle i (by simp [hh]) with hp | hp
    · rw [hp, full] at hs
      cases hs
      refine ⟨fun j hj => ?_, done, [], body i, rfl, by simpa [tag] using hm, by simp [upd]⟩
      have hj' : j ≠ i := fun e => hj (e ▸ rfl)
      simpa [Idle, others _ j hj'] using hidle j (by simp [hh])
    · simp [hp] at hs
  | some hd =>
    rw [hh] at hm hs
    obtain ⟨pre, post, hb, ht, hprog⟩ := hm
    by_cases hi : i = hd
    · subst hi
      rw [hprog] at hs
      cases post with
      | nil =>
        -- the holder is at `rel`: its whole body has been emitted
        simp only [List.map_nil, List.nil_append, if_true] at hs
        cases hs
        refine ⟨fun j _ => ?_, done ++ [i], by simp [ht, blocks, hb]⟩
        by_cases hj : j = i
        · right; simp [upd, hj]
        · simpa [Idle, others _ j hj] using hidle j (by simpa [hh] using fun e => hj e.symm)
      | cons y ys =>
        cases hs
        refine ⟨fun j hj => ?_, done, pre ++ [y], ys, by simp [hb], by simp [ht, tag], by simp [upd]⟩
        have hj' : j ≠ i := fun e => hj (e ▸ rfl)
        simpa [Idle, others _ j hj'] using hidle j (by simpa [hh] using fun e => hj' e.symm)
    · -- any other thread is idle, and `acq` is blocked
      rcases hidle i (by simpa [hh] using fun e => hi e.symm) with hp | hp
      · simp [hp, full] at hs
      · simp [hp] at hs

theorem inv_exec {α} (body : Nat → List α) (sched : List Nat) (s s' : St α) (h : Inv body s)
    (hs : exec sched s = some s') : Inv body s' := by
  induction sched generalizing s with
  | nil => cases hs; exact h
  | cons i is ih =>
    rw [exec] at hs
    cases hst : stepThread i s with
    | none => simp [hst] at hs
    | some s1 => exact ih s1 (inv_step body i s s1 h hst) (by simpa [hst] using hs)

/-- `done`: the threads in the order in which they released the lock; `part`: what the current holder has emitted.
    Not stated: that `done` has no repetitions (it has none: a finished thread has the empty program). -/
theorem atomic_blocks {α} (body : Nat → List α) (sched : List Nat) (s' : St α)
    (h : exec sched ⟨full body, none, []⟩ = some s') :
    ∃ done part, s'.trace = blocks body done ++ part ∧ (s'.holder = none → part = []) ∧
      (∀ hd, s'.holder = some hd → ∃ k, part = tag hd ((body hd).take k)) := by
  obtain ⟨_, done, hm⟩ := inv_exec body sched _ s' ⟨fun j _ => Or.inl rfl, [], rfl⟩ h
  cases hh : s'.holder with
  | none =>
    rw [hh] at hm
    exact ⟨done, [], by simpa using hm, fun _ => rfl, fun _ e => (by cases e)⟩
  | some hd =>
    rw [hh] at hm
    obtain ⟨pre, post, hb, ht, _⟩ := hm
    refine ⟨done, tag hd pre, ht, fun e => (by cases e), fun _ e => ?_⟩
    cases e
    exact ⟨pre.length, by rw [hb, List.take_left]⟩

end GoMail.Conc
