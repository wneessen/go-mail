import GoMailModel.Mime.Msg
/-
  msgWriter.writeMsg / Msg.WriteTo (msgwriter.go, msg.go) as a *write plan*: the pure list of write
  actions a render performs, plus the state changes a render leaves behind in the Msg (Date,
  Message-ID, boundary cache, file header cache). `Exec.lean` interprets a plan against a sink that
  may fail; on a sink that never fails the output is the concatenation of the plan's bytes.
-/
namespace GoMail.Mime
open GoMail

/-- one write action of msgWriter -/
inductive WAct
  /-- a write guarded by the sticky error (`writeString`, `msgWriter.Write`), counted; `pre` is an
      assignment to `mw.err` made immediately before it (`startMP`: `mw.err = SetBoundary(..)`) -/
  | w (pre : Option Bool) (b : Bytes)
  /-- `writeBody` behind its `if mw.err == nil` guard: the encoded bytes, whether they go straight to
      the destination (depth 0) or through the part writer, and whether the producer returned an error -/
  | body (direct : Bool) (b : Bytes) (prodFails : Bool)
deriving Repr, DecidableEq

def WAct.bytes : WAct → Bytes
  | .w _ b => b
  | .body _ b _ => b

def planBytes (p : List WAct) : Bytes := (p.map WAct.bytes).flatten

/-- values a render takes from the clock, the random source and the signer -/
structure Entropy where
  date      : Bytes := []
  msgid     : Bytes := []
  bMixed    : Bytes := []
  bRelated  : Bytes := []
  bAlt      : Bytes := []
  bSigned   : Bytes := []
  signature : Bytes := []
deriving Repr, DecidableEq

/-- multipart.Writer.SetBoundary's validity rule -/
def boundaryChar (b : UInt8) : Bool :=
  (65 ≤ b && b ≤ 90) || (97 ≤ b && b ≤ 122) || (48 ≤ b && b ≤ 57) ||
  b == 39 || b == 40 || b == 41 || b == 43 || b == 95 || b == 44 || b == 45 || b == 46 ||
  b == 47 || b == 58 || b == 61 || b == 63 || b == 32

def validBoundary (b : Bytes) : Bool :=
  1 ≤ b.length && b.length ≤ 70 && b.all boundaryChar && b.getLast? != some 32

/-- plan writer: actions so far, open multiparts (boundary, a part was already created), header lines counted -/
structure PW where
  acts  : List WAct := []
  stack : List (Bytes × Bool) := []
  headerCount : Nat := 0
  /-- msgWriter.rawPartHeaders: set for the S/MIME signing pre-render -/
  rawPartHeaders : Bool := false
  /-- msgWriter.userBoundary: the outermost multipart of this render has taken the user's boundary -/
  userBnd : Bool := false
deriving Repr

def PW.depth (p : PW) : Nat := p.stack.length

def PW.str (p : PW) (b : Bytes) : PW := { p with acts := p.acts ++ [.w none b] }

/-- writeHeader; `count` says whether the caller adds the returned line count to msg.headerCount -/
def PW.header (p : PW) (count : Bool) (key : Bytes) (values : List Bytes) : PW :=
  let r := Fold.writeHeader key values
  if values.isEmpty then p
  else
    -- writeHeader issues two writeString calls: the folded buffer, then CRLF
    let bs := Fold.bufferString key values
    { p with acts := p.acts ++ [.w none bs, .w none crlf], headerCount := p.headerCount + (if count then r.2 else 0) }

/-- msgWriter.writePartHeader: headers of a part/file that is not nested in a multipart -/
def PW.partHeader (p : PW) (key : Bytes) (values : List Bytes) : PW :=
  if p.rawPartHeaders then
    values.foldl (fun p v => p.str (key ++ [58, 32] ++ v ++ crlf)) p
  else p.header false key values

/-- multipart.Writer.CreatePart through msgWriter.newPart -/
def PW.newPart (p : PW) (pre : Option Bool) (header : HeaderMap) : PW :=
  match p.stack with
  | [] => p
  | (b, last) :: rest =>
    let delim := (if last then crlf else []) ++ [45, 45] ++ b ++ crlf
    let hdr := (header.map (fun kv => kv.1 ++ [58, 32] ++ kv.2 ++ crlf)).flatten
    { p with acts := p.acts ++ [.w pre (delim ++ hdr ++ crlf)], stack := (b, true) :: rest }

/-- msgWriter.startMP. `given` is the boundary handed in (user boundary or cache, may be empty),
    `fresh` the random boundary multipart.NewWriter drew. Returns the boundary in effect. -/
def PW.startMP (p : PW) (mimeType given fresh : Bytes) : PW × Bytes :=
  let valid := validBoundary given
  let bnd := if given.isEmpty then fresh else if valid then given else fresh
  let pre : Option Bool := if given.isEmpty then none else some (!valid)
  let contentType := sb "multipart/" ++ mimeType ++ sb ";\r\n boundary=" ++ bnd
  let p' :=
    if p.depth == 0 then { p with acts := p.acts ++ [.w pre (sb "Content-Type: " ++ contentType)] }
    else p.newPart pre [(sb "Content-Type", contentType)]
  ({ p' with stack := (bnd, false) :: p'.stack }, bnd)

/-- msgWriter.stopMP -/
def PW.stopMP (p : PW) : PW :=
  match p.stack with
  | [] => p
  | (b, _) :: rest => { p with acts := p.acts ++ [.w none (crlf ++ [45, 45] ++ b ++ [45, 45] ++ crlf)], stack := rest }

def PW.body (p : PW) (enc : EncLabel) (prod : Producer) : PW :=
  { p with acts := p.acts ++ [.body (p.depth == 0) (Body.encodeBody (cteOf enc) prod.content) prod.fails] }

def hContentType : Bytes := sb "Content-Type"
def hCTE : Bytes := sb "Content-Transfer-Encoding"
def hContentDesc : Bytes := sb "Content-Description"
def hContentDisp : Bytes := sb "Content-Disposition"
def hContentID : Bytes := sb "Content-Id"

/-- msgWriter.writePart -/
def PW.writePart (p : PW) (s : MsgState) (part : Part) : PW :=
  let charset := if part.charset.isEmpty then s.charset else part.charset
  let contentType := if part.smime then part.ctype else part.ctype ++ sb "; charset=" ++ charset
  let desc := if part.desc.isEmpty then [] else EncodedWord.wordEncode (encoderOf s.encoding) s.charset part.desc
  let p :=
    if p.depth == 0 then
      let p := if part.desc.isEmpty then p else p.partHeader hContentDesc [desc]
      let p := p.partHeader hCTE [part.enc]
      let p := p.partHeader hContentType [contentType]
      p.str crlf
    else
      let h : HeaderMap := (if part.desc.isEmpty then [] else [(hContentDesc, desc)]) ++
        [(hCTE, part.enc), (hContentType, contentType)]
      p.newPart none h
  p.body part.enc part.prod

def sanitizeCtl (b : Bytes) : Bytes := b.map (fun c => if c < 32 || c == 127 then 95 else c)

/-- the header caching of addFiles; returns the file with its cached header map -/
def fileHeaders (s : MsgState) (isAttachment : Bool) (f : FileM) : FileM :=
  let encw := EncodedWord.wordEncode (encoderOf s.encoding) s.charset
  let h := f.header
  let h := if hmHas h hContentType then h else
    let mt := if !f.ctype.isEmpty then f.ctype else if f.typeByExt.isEmpty then sb "application/octet-stream" else f.typeByExt
    hmSet h hContentType (mt ++ sb "; name=\"" ++ encw (Body.sanitizeFilename f.name) ++ sb "\"")
  let encoding := if f.enc.isEmpty then encB64 else f.enc
  let h := if hmHas h hCTE then h else hmSet h hCTE encoding
  let h := if f.desc.isEmpty || hmHas h hContentDesc then h else hmSet h hContentDesc (encw f.desc)
  let h := if hmHas h hContentDisp then h else
    hmSet h hContentDisp ((if isAttachment then sb "attachment" else sb "inline") ++ sb "; filename=\"" ++
      encw (Body.sanitizeFilename f.name) ++ sb "\"")
  let h := if isAttachment || hmHas h hContentID then h else
    hmSet h hContentID ([60] ++ Body.sanitizeFilename f.name ++ [62])
  let h := match hmGet h hContentID with
    | some v => if v.isEmpty then h else hmSet h hContentID (sanitizeCtl v)
    | none => h
  { f with header := h }

theorem fileHeaders_prod (s : MsgState) (a : Bool) (f : FileM) : (fileHeaders s a f).prod = f.prod := rfl

/-- msgWriter.addFiles for one file (already with cached headers) -/
def PW.addFile (p : PW) (f : FileM) : PW :=
  let encoding := if f.enc.isEmpty then encB64 else f.enc
  let p :=
    if p.depth == 0 then
      (f.header.foldl (fun p kv => p.partHeader kv.1 [kv.2]) p).str crlf
    else p.newPart none f.header
  p.body encoding f.prod

def sortKeys (l : List (Bytes × α)) : List (Bytes × α) :=
  l.foldl (fun acc kv =>
    let (lo, hi) := acc.span (fun x => bytesLt x.1 kv.1 || x.1 == kv.1)
    lo ++ [kv] ++ hi) []

def userAgent : Bytes := sb ("go-mail v" ++ Generated.version ++ " // https://github.com/wneessen/go-mail")

/-- addDefaultHeader + checkUserAgent as a function on the generic header list: Date and Message-ID are
    set once, MIME-Version always, User-Agent / X-Mailer unless one of them is present or disabled -/
def defaultGen (s : MsgState) (e : Entropy) : List (Bytes × List Bytes) :=
  let g := s.gen
  let g := if (assocGet g (sb "Date")).isSome then g else assocSet g (sb "Date") [e.date]
  let g := if (assocGet g (sb "Message-ID")).isSome then g else assocSet g (sb "Message-ID") [e.msgid]
  let g := assocSet g (sb "MIME-Version") [encodeString s s.mimever]
  if s.noDefaultUA then g
  else if (assocGet g (sb "User-Agent")).isSome || (assocGet g (sb "X-Mailer")).isSome then g
  else assocSet (assocSet g (sb "User-Agent") [encodeString s userAgent]) (sb "X-Mailer") [encodeString s userAgent]

/-- the state a render leaves behind in genHeader -/
def defaultHeaders (s : MsgState) (e : Entropy) : MsgState := { s with gen := defaultGen s e }

def mimeSigned : Bytes := sb "signed; protocol=\"application/pkcs7-signature\"; micalg=sha-256"

/-- writeGenHeader (sorted), writePreformattedGenHeader (sorted), From / To / Cc / Reply-To -/
def stageHeaders (s : MsgState) (p : PW) : PW :=
  let p := (sortKeys s.gen).foldl (fun p kv => p.header true kv.1 kv.2) p
  let p := (sortKeys s.preform).foldl (fun p kv =>
    let line := kv.1 ++ [58, 32] ++ kv.2 ++ crlf
    { (p.str line) with headerCount := p.headerCount + countSub crlf line }) p
  let from_ := match addrGet s .from_ with
    | some (a :: _) => some a
    | _ => match addrGet s .envFrom with
      | some (a :: _) => some a
      | _ => none
  let p := match from_ with
    | some a => p.header true (sb "From") [a.str]
    | none => p
  [(AddrKind.to, sb "To"), (.cc, sb "Cc"), (.replyTo, sb "Reply-To")].foldl (fun p kn =>
    match addrGet s kn.1 with
    | some as => p.header true kn.2 (as.map (·.str))
    | none => p) p

/-- the boundary handed to startMP (getMultipartBoundary): the user's boundary for the outermost multipart;
    else the boundary remembered from an earlier render - unless that is the user's boundary and the
    outermost multipart of this render has taken it (a layer that was the outermost one earlier and is
    nested now): then none, and startMP draws a fresh one -/
def givenBoundary (s : MsgState) (p : PW) (cached : Bytes) : Bytes :=
  if !s.boundary.isEmpty && p.depth == 0 then s.boundary
  else if p.userBnd && cached == s.boundary then []
  else cached

/-- getMultipartBoundary notes that the outermost multipart has taken the user's boundary -/
def markUser (s : MsgState) (p : PW) : PW :=
  if !s.boundary.isEmpty && p.depth == 0 then { p with userBnd := true } else p

@[simp] theorem markUser_acts (s : MsgState) (p : PW) : (markUser s p).acts = p.acts := by
  unfold markUser; split <;> rfl
@[simp] theorem markUser_stack (s : MsgState) (p : PW) : (markUser s p).stack = p.stack := by
  unfold markUser; split <;> rfl
@[simp] theorem markUser_depth (s : MsgState) (p : PW) : (markUser s p).depth = p.depth := by
  unfold PW.depth; simp
@[simp] theorem markUser_raw (s : MsgState) (p : PW) : (markUser s p).rawPartHeaders = p.rawPartHeaders := by
  unfold markUser; split <;> rfl
@[simp] theorem markUser_headerCount (s : MsgState) (p : PW) : (markUser s p).headerCount = p.headerCount := by
  unfold markUser; split <;> rfl
theorem markUser_userBnd (s : MsgState) (p : PW) :
    (markUser s p).userBnd = (p.userBnd || (!s.boundary.isEmpty && p.depth == 0)) := by
  unfold markUser
  split
  · rename_i h; rw [h, Bool.or_true]
  · rename_i h; rw [Bool.eq_false_iff.mpr h, Bool.or_false]

/-- one `if msg.hasX() { startMP; cache; DoubleNewLine at depth 1 }` block -/
def openLayer (s : MsgState) (p : PW) (mimeType cached fresh : Bytes) : PW × Bytes :=
  let (p, b) := (markUser s p).startMP mimeType (givenBoundary s p cached) fresh
  (if p.depth == 1 then p.str (crlf ++ crlf) else p, b)

/-- the S/MIME wrapper and the mixed / related / alternative layers. The three layer decisions only
    read parts / embeds / attachments, so they are taken from the state as it is; the boundaries in
    effect go into the boundary cache. -/
def stageOpen (s : MsgState) (e : Entropy) (outer : Bool) (p : PW) : PW × MsgState :=
  let p0 := if outer then ((p.startMP mimeSigned e.bSigned e.bSigned).1).str (crlf ++ crlf) else p
  let r1 := if hasMixed s then openLayer s p0 (sb "mixed") s.bMixed e.bMixed else (p0, s.bMixed)
  let r2 := if hasRelated s then openLayer s r1.1 (sb "related") s.bRelated e.bRelated else (r1.1, s.bRelated)
  let r3 := if hasAlt s then openLayer s r2.1 (sb "alternative") s.bAlt e.bAlt else (r2.1, s.bAlt)
  (r3.1, { s with bMixed := r1.2, bRelated := r2.2, bAlt := r3.2 })

/-- body parts, embeds, attachments, with the closing delimiters of their layers; then the signature part -/
def stageContent (s : MsgState) (outer : Bool) (p : PW) (embeds attachments : List FileM) : PW :=
  let p := (s.parts.filter (fun x => !x.deleted && !x.smime)).foldl (fun p x => p.writePart s x) p
  let p := if hasAlt s then p.stopMP else p
  let p := embeds.foldl PW.addFile p
  let p := if hasRelated s then p.stopMP else p
  let p := attachments.foldl PW.addFile p
  let p := if hasMixed s then p.stopMP else p
  if outer then ((s.parts.filter (·.smime)).foldl (fun p x => p.writePart s x) p).stopMP else p

/-- msgWriter.writeMsg. `outer` = the S/MIME wrapper is written (hasSMIME ∧ ¬inProgress);
    `signing` = this is the signing pre-render (rawPartHeaders). -/
def writeMsg (s : MsgState) (e : Entropy) (outer : Bool) (signing : Bool := false) : PW × MsgState :=
  let s := defaultHeaders s e
  let p := stageHeaders s { rawPartHeaders := signing }
  let (p, s) := stageOpen s e outer p
  let embeds := s.embeds.map (fileHeaders s false)
  let attachments := s.attachments.map (fileHeaders s true)
  (stageContent s outer p embeds attachments, { s with embeds := embeds, attachments := attachments })

/-- skip `n` CRLF-terminated lines (Msg.signMessage's loop); `none` = "unable to find message body" -/
def skipLines : Nat → Bytes → Option Bytes
  | 0, b => some b
  | n + 1, b =>
    match indexOf crlf b with
    | none => none
    | some i => skipLines n (b.drop (i + 2))

def typeSMIMESigned : Bytes := sb "application/pkcs7-signature; name=\"smime.p7s\""

/-- what one Msg.WriteTo does: the plan, the new Msg state, and for signed messages the octets
    that were handed to the signer. `none` = WriteTo returned (0, err) before writing anything. -/
structure RenderPlan where
  plan   : List WAct
  state  : MsgState
  signed : Option Bytes := none

def renderPlan (s : MsgState) (e : Entropy) : Option RenderPlan :=
  if s.smime then
    let s0 := { s with parts := s.parts.filter (fun p => !p.smime) }
    let (pre, s1) := writeMsg s0 e false true
    match skipLines pre.headerCount (planBytes pre.acts) with
    | none => none
    | some octets =>
      let sig : Part := { ctype := typeSMIMESigned, charset := s1.charset, desc := [], enc := encB64,
                          prod := { content := e.signature }, smime := true }
      let s2 := { s1 with parts := s1.parts ++ [sig] }
      let (p, s3) := writeMsg s2 e true
      some { plan := p.acts, state := s3, signed := some octets }
  else
    let (p, s1) := writeMsg s e false
    some { plan := p.acts, state := s1 }

end GoMail.Mime
