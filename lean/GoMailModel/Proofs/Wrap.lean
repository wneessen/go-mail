import GoMailModel.Mime.Body
import GoMailModel.Proofs.B64
/-
  base64LineBreaker: `Write` calls followed by `Close` produce `wrap76` of the data. The line structure of
  `wrap76`, and with it that of every base64 body.
-/
namespace GoMail.LineBreaker
open GoMail

theorem wrap76_full (a b : Bytes) (h : a.length = 76) : wrap76 (a ++ b) = a ++ crlf ++ wrap76 b := by
  rw [wrap76, if_neg (by simp [h]), List.take_left' h, List.drop_left' h]

theorem close_eq (s : St) (h : s.line.length < 76) : close s = s.out ++ wrap76 s.line := by
  rw [close, wrap76, if_pos h]
  split
  · rw [List.append_assoc]
  · rw [List.append_nil]

/-- `rest` is the data of later `Write` calls: with it the statement composes over a stream (`writeAll_spec`). -/
theorem write_wrap (line out data : Bytes) (h : line.length < 76) (rest : Bytes) :
    (write line out data h).out ++ wrap76 ((write line out data h).line ++ rest) =
      out ++ wrap76 (line ++ data ++ rest) := by
  fun_induction write line out data h with
  | case1 line out data h h2 => rfl
  | case2 line out data h h2 excess ih =>
    have hfull : (line ++ data.take excess).length = 76 := by
      simp only [List.length_append, List.length_take, excess]
      omega
    have hsplit : line ++ data ++ rest = (line ++ data.take excess) ++ (data.drop excess ++ rest) := by
      rw [List.append_assoc line, List.append_assoc line, ← List.append_assoc (data.take excess),
        List.take_append_drop]
    rw [ih, hsplit, wrap76_full _ _ hfull]
    simp [List.append_assoc]

theorem write_spec (line out data : Bytes) (h : line.length < 76) :
    close (write line out data h) = out ++ wrap76 (line ++ data) := by
  have := write_wrap line out data h []
  rwa [List.append_nil, List.append_nil, ← close_eq _ (write_line_lt line out data h)] at this

theorem writeAll_spec (line out : Bytes) (h : line.length < 76) (chunks : List Bytes) :
    close (writeAll line out h chunks) = out ++ wrap76 (line ++ chunks.flatten) := by
  induction chunks generalizing line out with
  | nil => simpa [writeAll] using close_eq ⟨line, out⟩ h
  | cons c cs ih =>
    rw [writeAll, ih, write_wrap, List.flatten_cons, List.append_assoc]

end GoMail.LineBreaker

namespace GoMail
open LineBreaker

/-- `wrap76 x` is `x` cut into non-empty lines of at most 76 bytes, each followed by CRLF; no line for empty `x` -/
theorem wrap76_lines (x : Bytes) :
    ∃ ls : List Bytes, wrap76 x = (ls.map (· ++ crlf)).flatten ∧ ls.flatten = x ∧
      ∀ l ∈ ls, 0 < l.length ∧ l.length ≤ 76 := by
  fun_induction wrap76 x with
  | case1 x h hp =>
    exact ⟨[x], by simp, by simp, by intro l hl; simp at hl; subst hl; omega⟩
  | case2 x h hp =>
    refine ⟨[], by simp, ?_, by simp⟩
    have : x.length = 0 := by omega
    simpa using (List.length_eq_zero_iff.mp this).symm
  | case3 x h ih =>
    obtain ⟨ls, h1, h2, h3⟩ := ih
    refine ⟨x.take 76 :: ls, ?_, ?_, ?_⟩
    · simp [h1, List.append_assoc]
    · simp [h2]
    · intro l hl
      simp only [List.mem_cons] at hl
      rcases hl with rfl | hl
      · simp [List.length_take]; omega
      · exact h3 l hl

theorem b64Body_lines (content : Bytes) :
    ∃ ls : List Bytes, Body.encodeBody .b64 content = (ls.map (· ++ crlf)).flatten ∧
      ls.flatten = Base64.encode content ∧
      ∀ l ∈ ls, 0 < l.length ∧ l.length ≤ 76 ∧ ∀ c ∈ l, Base64.isAlpha c = true := by
  obtain ⟨ls, h1, h2, h3⟩ := wrap76_lines (Base64.encode content)
  refine ⟨ls, ?_, h2, fun l hl => ⟨(h3 l hl).1, (h3 l hl).2, fun c hc => ?_⟩⟩
  · rw [← h1]
    simpa [Body.encodeBody, Body.b64Body] using writeAll_spec [] [] (by decide) [Base64.encode content]
  · exact Base64.encode_alpha content c (h2 ▸ List.mem_flatten.mpr ⟨l, hl, hc⟩)

end GoMail
