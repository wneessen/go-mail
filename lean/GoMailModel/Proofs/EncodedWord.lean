import GoMailModel.Codec.EncodedWord
import GoMailModel.Proofs.B64
/-
  Everything mime.WordEncoder.Encode returns consists of printable ASCII and TAB only — in
  particular it never contains CR or LF, whatever the input bytes are. The walk over the encoder is
  made once, for any class `P` of bytes (`encodeWord_forall`); Proofs/Addr.lean uses it for another class.
-/
namespace GoMail.EncodedWord
open GoMail

/-- printable ASCII or TAB -/
def Safe (b : UInt8) : Prop := b = 9 ∨ (32 ≤ b ∧ b ≤ 126)

instance (b : UInt8) : Decidable (Safe b) := by unfold Safe; exact inferInstance

def AllSafe (l : Bytes) : Prop := ∀ b ∈ l, Safe b

instance (l : Bytes) : Decidable (AllSafe l) := by unfold AllSafe; exact inferInstance

section
variable {P : UInt8 → Prop}

/-- the fixed frame of a word: "=?" charset "?q?" / "?b?", "?=", and the blank between two words -/
theorem frame_forall (e : Enc) (cs : Bytes) (hcs : ∀ c ∈ cs, P c)
    (hfix : P 61 ∧ P 63 ∧ P 32 ∧ P (match e with | .q => 113 | .b => 98)) :
    (∀ c ∈ openWord e cs, P c) ∧ (∀ c ∈ closeWord, P c) ∧ (∀ c ∈ splitWord e cs, P c) := by
  obtain ⟨h61, h63, h32, he⟩ := hfix
  have ho : ∀ c ∈ openWord e cs, P c := by
    simp only [openWord, List.forall_mem_append, List.forall_mem_cons]
    exact ⟨⟨⟨h61, h63, nofun⟩, hcs⟩, h63, he, h63, nofun⟩
  have hc : ∀ c ∈ closeWord, P c := by
    simp only [closeWord, List.forall_mem_cons]
    exact ⟨h63, h61, nofun⟩
  refine ⟨ho, hc, ?_⟩
  simp only [splitWord, List.forall_mem_append, List.forall_mem_cons]
  exact ⟨⟨hc, h32, nofun⟩, ho⟩

theorem qString_forall (hq : ∀ b, ∀ c ∈ qByte b, P c) (s : Bytes) : ∀ c ∈ qString s, P c := by
  simp only [qString, List.forall_mem_flatten, List.forall_mem_map]
  exact fun b _ => hq b

theorem qLoop_forall (cs : Bytes) (hsplit : ∀ c ∈ splitWord .q cs, P c) (hq : ∀ b, ∀ c ∈ qByte b, P c)
    (s : Bytes) (cur : Nat) : ∀ c ∈ qLoop cs s cur, P c := by
  fun_induction qLoop cs s cur with
  | case1 => nofun
  | case2 b rest cur plain rl encLen pre cur' ih =>
    simp only [List.forall_mem_append]
    refine ⟨⟨?_, qString_forall hq _⟩, ih⟩
    simp only [pre]
    split
    · exact hsplit
    · nofun

theorem bLoop_forall (cs : Bytes) (hsplit : ∀ c ∈ splitWord .b cs, P c) (h64 : ∀ x, ∀ c ∈ Base64.encode x, P c)
    (pending s : Bytes) (cur : Nat) : ∀ c ∈ bLoop cs pending s cur, P c := by
  fun_induction bLoop cs pending s cur with
  | case1 pending _ => exact h64 _
  | case2 pending b rest cur rl hle ih => exact ih
  | case3 pending b rest cur rl hle ih =>
    simp only [List.forall_mem_append]
    exact ⟨⟨h64 _, hsplit⟩, ih⟩

theorem encodeWord_forall (e : Enc) (cs s : Bytes) (hcs : ∀ c ∈ cs, P c)
    (hfix : P 61 ∧ P 63 ∧ P 32 ∧ P (match e with | .q => 113 | .b => 98))
    (htext : match e with
      | .q => ∀ b, ∀ c ∈ qByte b, P c
      | .b => ∀ c, Base64.isAlpha c = true → P c) :
    ∀ c ∈ encodeWord e cs s, P c := by
  obtain ⟨ho, hc, hs⟩ := frame_forall e cs hcs hfix
  simp only [encodeWord, List.forall_mem_append]
  refine ⟨⟨ho, ?_⟩, hc⟩
  cases e with
  | q =>
    simp only [qEncode]
    split
    · exact qString_forall htext s
    · exact qLoop_forall cs hs htext s 0
  | b =>
    have h64 : ∀ x, ∀ c ∈ Base64.encode x, P c := fun x c hc => htext c (Base64.encode_alpha x c hc)
    simp only [bEncode]
    split
    · exact h64 s
    · exact bLoop_forall cs hs h64 [] s 0
end

theorem safe_not_crlf (b : UInt8) (h : Safe b) : b ≠ 13 ∧ b ≠ 10 :=
  ⟨ne_of_class Safe h (by decide), ne_of_class Safe h (by decide)⟩

theorem safe_of_bounds {b lo hi : UInt8} (h : lo ≤ b ∧ b ≤ hi) (hlo : 32 ≤ lo) (hhi : hi ≤ 126) : Safe b :=
  Or.inr ⟨UInt8.le_trans hlo h.1, UInt8.le_trans h.2 hhi⟩

theorem hexU_safe : ∀ n : UInt8, Safe (hexDigitU (n >>> 4)) ∧ Safe (hexDigitU (n &&& 15)) := fun n =>
  ⟨safe_of_bounds (hexDigitU_spec _ (shr4_lt n)).2 (by decide) (by decide),
   safe_of_bounds (hexDigitU_spec _ (and15_lt n)).2 (by decide) (by decide)⟩

theorem qByte_safe (b : UInt8) : AllSafe (qByte b) := by
  unfold qByte AllSafe
  split
  · decide
  · split
    · rename_i h
      simp only [Bool.and_eq_true, decide_eq_true_eq] at h
      simp only [List.forall_mem_cons]
      exact ⟨Or.inr ⟨UInt8.le_trans (by decide) h.1.1.1.1, h.1.1.1.2⟩, nofun⟩
    · simp only [List.forall_mem_cons]
      exact ⟨by decide, (hexU_safe b).1, (hexU_safe b).2, nofun⟩

theorem alpha_safe (c : UInt8) (h : Base64.isAlpha c = true) : Safe c :=
  safe_of_bounds (Base64.alpha_bounds c h) (by decide) (by decide)

theorem needsEncoding_false (s : Bytes) (h : needsEncoding s = false) : AllSafe s := by
  intro b hb
  have := (List.any_eq_false.mp h) b hb
  simp only [Bool.and_eq_true, Bool.or_eq_true, decide_eq_true_eq, bne_iff_ne, not_and, Decidable.not_not] at this
  by_cases h : b < 32 ∨ b > 126
  · exact Or.inl (this h)
  · simp only [not_or, UInt8.not_lt, gt_iff_lt] at h
    exact Or.inr h

theorem wordEncode_safe (e : Enc) (cs s : Bytes) (hcs : AllSafe cs) : AllSafe (wordEncode e cs s) := by
  unfold wordEncode
  split
  · apply encodeWord_forall e cs s hcs ⟨by decide, by decide, by decide, by cases e <;> decide⟩
    cases e with
    | q => exact qByte_safe
    | b => exact alpha_safe
  · rename_i h
    exact needsEncoding_false s (by simpa using h)

theorem wordEncode_no_crlf (e : Enc) (cs s : Bytes) (hcs : AllSafe cs) :
    ∀ b ∈ wordEncode e cs s, b ≠ 13 ∧ b ≠ 10 :=
  fun b hb => safe_not_crlf b (wordEncode_safe e cs s hcs b hb)

theorem wordEncode_ne_nil (e : Enc) (cs v : Bytes) (hv : v ≠ []) : wordEncode e cs v ≠ [] := by
  unfold wordEncode
  split
  · unfold encodeWord openWord
    simp
  · exact hv

end GoMail.EncodedWord
