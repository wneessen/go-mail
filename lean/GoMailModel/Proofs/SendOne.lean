import GoMailModel.Smtp.Send
/-
  The walk over `sendOne` (Client.sendSingleMsg), done once: a proof outline with one hypothesis per
  step of the function. An invariant of the send path supplies the facts about the steps.

  The proof opens every call by `have h := fact; generalize call = p at h ⊢; obtain ⟨..⟩ := p` and decides
  every `if` by `by_cases` and `rw [if_pos _]`: the goal still holds the rest of `sendOne`, and `match` or
  `split` would work on all of it (DESIGN.md 4.1, note (b)).
-/
namespace GoMail.Smtp
open GoMail

/-- Proof outline of `sendOne`: choose one predicate on the connection per program point, prove one
    hypothesis per step, get `Q` of the result. Program points:
      `P` between messages: at entry; kept by the capability look-ups (`ext`) and the DSN setting (`dsn`)
      `M` MAIL accepted (and `dsnrntype` set)   `R` RCPT loop over, nothing refused   `D` DATA accepted
      `E` end-of-data acknowledged
      `A` a command of the transaction was refused: `abortTx` follows (RSET; Close if that is refused too)
      `F` at a failing exit, where the result is `{ delivered := wd, err := some _ }`.
    Steps in program order: `ext`, `dsn` (P kept); `early` (P to F: the three exits before MAIL - no
    8BITMIME, no sender, no recipients); `mail` (P to A or M); `rcpts` (M to A or R; it may use that the
    list is not empty: legality needs one accepted recipient before DATA); `data` (R to A or D); `abort`
    (A to F); `renderFails`, `writeBlocks` (D to F: the connection is closed); `eod` (D to F or E; a failed
    end-of-data is not followed by RSET, hence F and not A); `exitFail` (F gives `Q`); `exitOk` (E gives
    `Q` behind `resetWith`; it may use `m.renderOK`, which C03 reads). Which SendError is reported is not
    tracked: `exitFail` and `exitOk` are asked for every `se` / `e`. -/
theorem sendOne_outline {P A M R D E F : Conn → Prop} {Q : Conn × MsgOut → Prop}
    (cfg : SendCfg) (idx : Nat) (m : MsgIn) (wd : Bool)
    (ext : ∀ {c : Conn} (s : String), P c → P (c.extension s).1)
    (dsn : ∀ {c : Conn} (v : Bytes), P c → P { c with dsnmrtype := v })
    (early : ∀ {c : Conn}, P c → F c)
    (mail : ∀ {c : Conn} (a : Bytes), P c →
      (∀ e, (c.mail a).2 = some e → A (c.mail a).1) ∧
      ((c.mail a).2 = none → M { (c.mail a).1 with dsnrntype := cfg.dsnNotify }))
    (abort : ∀ {c : Conn} (se : SendErr), A c → F (abortTx c se).1)
    (rcpts : ∀ {c : Conn} (esc : Bool) (se : SendErr), m.rcpts.isEmpty = false → M c →
      ((rcptLoop esc c m.rcpts se false).2.2 = true → A (rcptLoop esc c m.rcpts se false).1) ∧
      ((rcptLoop esc c m.rcpts se false).2.2 = false → R (rcptLoop esc c m.rcpts se false).1))
    (data : ∀ {c : Conn}, R c → (∀ e, c.data.2 = some e → A c.data.1) ∧ (c.data.2 = none → D c.data.1))
    (renderFails : ∀ {c : Conn}, D c → F (c.ev (.content idx false)).close)
    (writeBlocks : ∀ {c : Conn}, D c → F ((c.ev (.content idx false)).ev (.stall c.armed)).close)
    (eod : ∀ {c : Conn}, D c →
      (∀ e, (c.ev (.content idx true)).endData.2 = some e → F (c.ev (.content idx true)).endData.1) ∧
      ((c.ev (.content idx true)).endData.2 = none → E (c.ev (.content idx true)).endData.1))
    (exitFail : ∀ {c : Conn} (se : SendErr), F c → Q (c, { delivered := wd, err := some se }))
    (exitOk : ∀ {c : Conn} (e : Option SendErr), E c → m.renderOK = true →
      Q ((resetWith cfg c).1, { delivered := true, err := e }))
    {c : Conn} (h : P c) : Q (sendOne cfg c idx m wd) := by
  unfold sendOne
  dsimp only
  have h1 := ext "ENHANCEDSTATUSCODES" h
  generalize c.extension "ENHANCEDSTATUSCODES" = p at h1 ⊢
  obtain ⟨c1, esc⟩ := p
  have h2 : P (if m.eightBit then c1.extension "8BITMIME" else (c1, true)).1 := by
    split
    · exact ext _ h1
    · exact h1
  generalize (if m.eightBit then c1.extension "8BITMIME" else (c1, true)) = p at h2 ⊢
  obtain ⟨c2, ok8⟩ := p
  dsimp only at h2 ⊢
  by_cases h8 : (!ok8) = true
  · rw [if_pos h8]; exact exitFail _ (early h2)
  rw [if_neg h8]
  split
  · exact exitFail _ (early h2)
  rename_i sender _
  by_cases hr : m.rcpts.isEmpty = true
  · rw [if_pos hr]; exact exitFail _ (early h2)
  rw [if_neg hr]
  have h3 : P (if cfg.requestDSN && !cfg.dsnReturn.isEmpty then { c2 with dsnmrtype := cfg.dsnReturn } else c2) := by
    split
    · exact dsn _ h2
    · exact h2
  have h4 := mail (envelopeAddress sender) h3
  generalize Conn.mail _ (envelopeAddress sender) = p at h4 ⊢
  obtain ⟨c3, _ | e⟩ := p
  rotate_left
  · exact exitFail _ (abort _ (h4.1 e rfl))
  dsimp only at h4 ⊢
  have h5 := rcpts esc { reason := .getSender, nerrs := 0 } (by simpa using hr) (h4.2 rfl)
  generalize rcptLoop esc { c3 with dsnrntype := cfg.dsnNotify } m.rcpts { reason := .getSender, nerrs := 0 } false = p at h5 ⊢
  obtain ⟨c4, se, bad⟩ := p
  dsimp only at h5 ⊢
  by_cases hb : bad = true
  · rw [if_pos hb]; exact exitFail _ (abort _ (h5.1 hb))
  rw [if_neg hb]
  have h6 := data (h5.2 (by simpa using hb))
  generalize c4.data = p at h6 ⊢
  obtain ⟨c5, _ | e⟩ := p
  rotate_left
  · exact exitFail _ (abort _ (h6.1 e rfl))
  have h6 := h6.2 rfl
  dsimp only at h6 ⊢
  by_cases hro : (!m.renderOK) = true
  · rw [if_pos hro]; exact exitFail _ (renderFails h6)
  rw [if_neg hro]
  by_cases hdf : (c5.srvDeaf && m.big) = true
  · rw [if_pos hdf]; exact exitFail _ (writeBlocks h6)
  rw [if_neg hdf]
  have h7 := eod h6
  generalize (c5.ev (.content idx true)).endData = p at h7 ⊢
  obtain ⟨c6, _ | e⟩ := p
  rotate_left
  · exact exitFail _ (h7.1 e rfl)
  dsimp only at h7 ⊢
  have h8 := fun e => exitOk e (h7.2 rfl) (by simpa using hro)
  generalize resetWith cfg c6 = p at h8 ⊢
  obtain ⟨c7, _ | e⟩ := p <;> exact h8 _

end GoMail.Smtp
