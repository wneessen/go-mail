import GoMailModel.Smtp.Session
/-
  What one command exchange does to a connection, exactly: which fields it leaves alone, which events
  it appends, and how the result the client sees goes with what the server did.
-/
namespace GoMail.Smtp
open GoMail

/-- `c` without the fields a read from the server may change -/
def Conn.rest (c : Conn) : Conn :=
  { c with trace := [], script := [], inData := false, srvGone := false, srvSilent := false, srvDeaf := false }

theorem replied_fst (c : Conn) (v : Verb) (n code : Nat) (t : Bytes) :
    (c.replied v n code t).1 =
      { c with trace := c.trace ++ [.reply code], inData := (v == .data && code == 354) || c.inData,
               srvGone := (v == .quit && code == 221) || c.srvGone } := by
  unfold Conn.replied Conn.ev
  dsimp only
  cases (v == .data && code == 354) <;> cases (v == .quit && code == 221) <;> rfl

theorem replied_rest (c : Conn) (v : Verb) (n code : Nat) (t : Bytes) : (c.replied v n code t).1.rest = c.rest := by
  rw [replied_fst]; rfl

theorem applyAct_rest (c : Conn) (v : Verb) (n : Nat) (a : Act) : (c.applyAct v n a).1.rest = c.rest := by
  cases a with
  | ok => exact replied_rest c v n _ _
  | reply code text => exact replied_rest c v n code text
  | deaf => exact replied_rest c v n _ _
  | drop => rfl
  | stall => rfl
  | garbage => rfl
  | tlsBad => rfl

theorem pop_rest (c : Conn) : c.pop.2.rest = c.rest := by
  unfold Conn.pop
  split <;> rfl

theorem serverTurn_rest (c : Conn) (v : Verb) (n : Nat) : (c.serverTurn v n).1.rest = c.rest := by
  unfold Conn.serverTurn
  split
  · rfl
  split
  · rfl
  · exact (applyAct_rest c.pop.2 v n c.pop.1).trans (pop_rest c)

/-- once this equation has been used, any field but `logs` of a logged connection is that of `c` by `rfl` -/
theorem log_eq (c : Conn) (r : LogRec) : c.log r = { c with logs := (c.log r).logs } := by
  unfold Conn.log; split <;> rfl

theorem log_rest (c : Conn) (r : LogRec) : (c.log r).rest = { c.rest with logs := (c.log r).logs } :=
  (congrArg Conn.rest (log_eq c r) :)

theorem send_rest (c : Conn) (v : Verb) (line : Bytes) : (c.send v line).rest = c.rest := by
  unfold Conn.send; split <;> rfl

theorem cmd_rest (c : Conn) (v : Verb) (line : Bytes) (n : Nat) :
    (c.cmd v line n).1.rest = { c.rest with logs := (c.cmd v line n).1.logs } := by
  unfold Conn.cmd Conn.logS2C Conn.logC2S
  split
  · exact log_rest _ _
  · simp only []
    rw [log_rest, serverTurn_rest, send_rest, log_rest]

/-- Somebody is at both ends: the client has not closed, the server has neither gone nor fallen silent.
    Only then does a command reach the server and get an answer (`cmd_trace_live`); otherwise `cmd_dead`. -/
def live (c : Conn) : Prop := c.cliOpen = true ∧ c.srvGone = false ∧ c.srvSilent = false

/-- the client-side fields the legality proof reads are those of `c` -/
def Frame (c c' : Conn) : Prop :=
  c'.cliOpen = c.cliOpen ∧ c'.didHello = c.didHello ∧ c'.helloErr = c.helloErr ∧ c'.isConnected = c.isConnected ∧
  c'.ext = c.ext ∧ c'.localName = c.localName

theorem Frame.of_rest {c c' : Conn} {l : List LogRec} (h : c'.rest = { c.rest with logs := l }) : Frame c c' :=
  ⟨(congrArg Conn.cliOpen h :), (congrArg Conn.didHello h :), (congrArg Conn.helloErr h :),
   (congrArg Conn.isConnected h :), (congrArg Conn.ext h :), (congrArg Conn.localName h :)⟩

theorem Frame.of_cmd (c : Conn) (v : Verb) (line : Bytes) (n : Nat) : Frame c (c.cmd v line n).1 :=
  .of_rest (cmd_rest c v line n)

theorem cmd_closed (c : Conn) (v : Verb) (line : Bytes) (n : Nat) (ho : c.cliOpen = false) :
    ∃ l, c.cmd v line n = ({ c with logs := l }, .error .closed) := by
  unfold Conn.cmd Conn.logC2S
  rw [if_pos (by simp [ho])]
  exact ⟨_, by rw [log_eq]⟩

theorem cmd_open (c : Conn) (v : Verb) (line : Bytes) (n : Nat) (ho : c.cliOpen = true) :
    ∃ l l', c.cmd v line n =
      ({ ((({ c with logs := l } : Conn).send v line).serverTurn v n).1 with logs := l' },
       ((({ c with logs := l } : Conn).send v line).serverTurn v n).2) := by
  unfold Conn.cmd Conn.logC2S Conn.logS2C
  rw [if_neg (by simp [ho]), log_eq c]
  exact ⟨_, _, by rw [log_eq]⟩

theorem serverTurn_dead (c : Conn) (v : Verb) (n : Nat) (h : (c.srvGone || c.srvSilent) = true) :
    ((c.serverTurn v n).1 = c ∨ (c.serverTurn v n).1 = c.ev (.stall c.armed)) ∧ ∃ e, (c.serverTurn v n).2 = .error e := by
  unfold Conn.serverTurn
  split
  · exact ⟨.inl rfl, _, rfl⟩
  · rw [if_pos (by simpa [*] using h)]
    exact ⟨.inr rfl, _, rfl⟩

theorem log_trace (c : Conn) (r : LogRec) : (c.log r).trace = c.trace := by rw [log_eq]

/-- the four things a live server can do when it is its turn: what the client reads (`r`), the trace
    (`t` before, `t'` after), whether the server is gone or silent afterwards. A flag a case does not
    mention is not determined by it: `deaf` answers and then falls silent, so `reply` says nothing of `silent`. -/
inductive SrvDid (t : List Ev) (n : Nat) (v : Verb) (r : Except Err (Nat × Bytes)) (t' : List Ev) (gone silent : Bool) : Prop
  | reply (code : Nat) (text : Bytes) :
      r = (if codeMatches n code then .ok (code, text) else .error (.reply code text)) →
      t' = t ++ [.reply code] → gone = (v == .quit && code == 221) → SrvDid t n v r t' gone silent
  | garbage : r = .error .proto → t' = t ++ [.garbage] → gone = false → silent = false → SrvDid t n v r t' gone silent
  | drop : r = .error .eof → t' = t ++ [.drop] → gone = true → SrvDid t n v r t' gone silent
  | stall (a : Bool) : (r = .error .timeout ∨ r = .error .blocked) → t' = t ++ [.stall a] → silent = true →
      SrvDid t n v r t' gone silent

theorem serverTurn_live (c : Conn) (v : Verb) (n : Nat) (hg : c.srvGone = false) (hs : c.srvSilent = false) :
    SrvDid c.trace n v (c.serverTurn v n).2 (c.serverTurn v n).1.trace (c.serverTurn v n).1.srvGone
      (c.serverTurn v n).1.srvSilent := by
  unfold Conn.serverTurn
  rw [if_neg (by rw [hg]; exact Bool.false_ne_true), if_neg (by rw [hs]; exact Bool.false_ne_true)]
  have hp : c.pop.2.trace = c.trace ∧ c.pop.2.srvGone = false ∧ c.pop.2.srvSilent = false := by
    unfold Conn.pop; split <;> exact ⟨rfl, hg, hs⟩
  obtain ⟨pt, pg, ps⟩ := hp
  rw [← pt]
  have hrep : ∀ code text,
      (c.pop.2.replied v n code text).1.trace = c.pop.2.trace ++ [.reply code] ∧
      (c.pop.2.replied v n code text).1.srvGone = (v == .quit && code == 221) := by
    intro code text
    rw [replied_fst]
    exact ⟨rfl, by rw [pg]; exact Bool.or_false _⟩
  cases c.pop.1 with
  | ok => exact .reply _ _ rfl (hrep _ _).1 (hrep _ _).2
  | reply code text => exact .reply _ _ rfl (hrep _ _).1 (hrep _ _).2
  | deaf => exact .reply _ _ rfl (hrep _ _).1 (hrep _ _).2
  | drop => exact .drop rfl rfl rfl
  | stall =>
    refine .stall c.pop.2.armed ?_ rfl rfl
    simp only [Conn.applyAct, Conn.waitSilent]
    cases c.pop.2.armed <;> simp
  | garbage => exact .garbage rfl rfl pg ps
  | tlsBad => exact .garbage rfl rfl pg ps

theorem cmd_trace_live (c : Conn) (v : Verb) (line : Bytes) (n : Nat) (hl : live c) :
    SrvDid (c.ev (.cmd v line)).trace n v (c.cmd v line n).2 (c.cmd v line n).1.trace (c.cmd v line n).1.srvGone
      (c.cmd v line n).1.srvSilent := by
  obtain ⟨l, l', e⟩ := cmd_open c v line n hl.1
  rw [e, show ({ c with logs := l } : Conn).send v line = ({ c with logs := l } : Conn).ev (.cmd v line) from
    if_neg (by simp [hl.2.1, hl.2.2])]
  exact serverTurn_live (({ c with logs := l } : Conn).ev (.cmd v line)) v n hl.2.1 hl.2.2

theorem cmd_dead (c : Conn) (v : Verb) (line : Bytes) (n : Nat) (h : ¬ live c) :
    ((c.cmd v line n).1.trace = c.trace ∨ ∃ a, (c.cmd v line n).1.trace = c.trace ++ [.stall a]) ∧
    ¬ live (c.cmd v line n).1 ∧ ∃ e, (c.cmd v line n).2 = .error e := by
  cases ho : c.cliOpen with
  | false =>
    obtain ⟨l, e⟩ := cmd_closed c v line n ho
    rw [e]
    exact ⟨.inl rfl, fun hl => Bool.noConfusion (ho.symm.trans hl.1), _, rfl⟩
  | true =>
    have hq : (c.srvGone || c.srvSilent) = true := by
      cases hg : c.srvGone <;> cases hs : c.srvSilent <;> first | rfl | exact absurd ⟨ho, hg, hs⟩ h
    obtain ⟨l, l', e⟩ := cmd_open c v line n ho
    rw [e, show ({ c with logs := l } : Conn).send v line = { c with logs := l } from if_pos hq]
    obtain ⟨h1 | h1, h2⟩ := serverTurn_dead { c with logs := l } v n hq
    · rw [h1]; exact ⟨.inl rfl, fun hl => h ⟨ho, hl.2.1, hl.2.2⟩, h2⟩
    · rw [h1]; exact ⟨.inr ⟨_, rfl⟩, fun hl => h ⟨ho, hl.2.1, hl.2.2⟩, h2⟩

end GoMail.Smtp
