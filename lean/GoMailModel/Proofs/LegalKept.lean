import GoMailModel.Proofs.LegalCmd
import GoMailModel.Proofs.Kept
/-
  Session legality, outside a transaction: events the judge does not look at, Close, the deadline; with them
  `Between` is kept by every command that is legal outside a transaction, hence (Proofs/Kept) by
  every operation of the dial and around the mail transaction.
-/
namespace GoMail.Smtp
open GoMail

theorem cmd_frame (c : Conn) (v : Verb) (line : Bytes) (n : Nat) (h : JI c) : Frame c (c.cmd v line n).1 := Frame.of_cmd _ _ _ _

/-- re-establishing `Sess` after the judge has moved on reads only its verdict, `hello`, `stopped` and
    whether it is ready -/
theorem Sess.of_judge {c c1 : Conn} (h : Sess c) {j : J} (hj : judge c1.trace = j)
    (hb : j.bad = (judge c.trace).bad) (hh : j.hello = (judge c.trace).hello) (hs : j.stopped = !c1.cliOpen)
    (hr : live c1 → j.greeted = true ∧ j.pending = none ∧ j.closed = false)
    (hd : c1.didHello = c.didHello := by rfl) (he : c1.helloErr = c.helloErr := by rfl) : Sess c1 :=
  ⟨⟨by rw [hj, hb]; exact h.ji.nbad, by rw [hj, hs], fun hl => by rw [hj]; exact hr hl⟩,
   fun a b => by rw [hj, hh]; exact h.hello (hd ▸ a) (he ▸ b)⟩

theorem sess_ev_neutral (c : Conn) (e : Ev) (h : Sess c) (he : ∀ j : J, j.step e = j) :
    Sess (c.ev e) ∧ (Idle c → Idle (c.ev e)) := by
  have hj : judge (c.ev e).trace = judge c.trace := by rw [judge_ev, he]
  exact ⟨h.of_judge hj rfl rfl h.ji.stop h.ji.ready, fun hi hl => by rw [hj]; exact hi hl⟩

theorem step_deadline (j : J) : j.step .deadline = j := by simp [J.step]
theorem step_tlsOn (j : J) : j.step .tlsOn = j := by simp [J.step]
theorem step_tlsFail (j : J) : j.step .tlsFail = j := by simp [J.step]

/-- Close ends whatever the client was in the middle of: it needs no more than a judge that has not
    objected and stops when the client closes (which also holds before the greeting is read) -/
theorem between_close_of_judge (c : Conn) (hb : (judge c.trace).bad = false) (hs : (judge c.trace).stopped = !c.cliOpen)
    (hh : HelloRel c) : Between c.close := by
  unfold Conn.close
  split
  · rename_i ho
    have hj : judge (c.ev .close).trace = { judge c.trace with stopped := true } := by
      rw [judge_ev]; simp [J.step, hs, ho]
    have nl : ¬ live { c.ev .close with cliOpen := false, isConnected := false } := fun hl => by cases hl.1
    refine ⟨⟨⟨?_, ?_, fun hl => absurd hl nl⟩, fun a b => ?_⟩, fun hl => absurd hl nl⟩
    · show (judge (c.ev .close).trace).bad = false
      rw [hj]; exact hb
    · show (judge (c.ev .close).trace).stopped = _
      rw [hj]; rfl
    · show (judge (c.ev .close).trace).hello = true
      rw [hj]; exact hh a b
  · rename_i ho
    have ho' : c.cliOpen = false := by simpa using ho
    have nl : ¬ live { c with isConnected := false } := fun hl => by have := hl.1; simp [ho'] at this
    exact ⟨⟨⟨hb, hs, fun hl => absurd hl nl⟩, hh⟩, fun hl => absurd hl nl⟩

theorem Sess.of_eq {c c' : Conn} (h : Sess c) (ht : c'.trace = c.trace) (ho : c'.cliOpen = c.cliOpen := by rfl)
    (hg : c'.srvGone = c.srvGone := by rfl) (hs : c'.srvSilent = c.srvSilent := by rfl)
    (hd : c'.didHello = c.didHello := by rfl) (he : c'.helloErr = c.helloErr := by rfl) : Sess c' :=
  ⟨ji_of_eq c c' h.ji ht ho hg hs, hellorel_of_eq c c' h.hello ht hd he⟩

theorem between_of_eq (c c' : Conn) (h : Between c) (ht : c'.trace = c.trace) (ho : c'.cliOpen = c.cliOpen := by rfl)
    (hg : c'.srvGone = c.srvGone := by rfl) (hs : c'.srvSilent = c.srvSilent := by rfl)
    (hd : c'.didHello = c.didHello := by rfl) (he : c'.helloErr = c.helloErr := by rfl) : Between c' :=
  ⟨h.sess.of_eq ht ho hg hs hd he, idle_of_eq c c' h.idle ht ho hg hs⟩

theorem between_ev (c : Conn) (e : Ev) (h : Between c) (he : ∀ j : J, j.step e = j) : Between (c.ev e) := by
  obtain ⟨a, b⟩ := sess_ev_neutral c e h.sess he
  exact ⟨a, b h.idle⟩

theorem Sess.between_close {c : Conn} (h : Sess c) : Between c.close := between_close_of_judge c h.ji.nbad h.ji.stop h.hello

theorem between_waitSilent (c : Conn) (h : Between c) : Between c.waitSilent.1 := by
  unfold Conn.waitSilent
  exact between_ev c _ h (fun j => step_stall j _)

theorem between_pop (c : Conn) (h : Between c) : Between c.pop.2 := by
  unfold Conn.pop; split
  · exact h
  · exact between_of_eq c _ h rfl

theorem between_silent (c : Conn) (h : Between c) : Between { c with srvSilent := true } := by
  have nl : ¬ live ({ c with srvSilent := true } : Conn) := fun hl => by cases hl.2.2
  exact ⟨h.sess.of_judge rfl rfl rfl h.sess.ji.stop (fun hl => absurd hl nl), fun hl => absurd hl nl⟩

/-- the transport breaks outside any command (a failed TLS handshake): the server is out of reach -/
theorem between_gone (c : Conn) (e : Option Err) (h : Between c) : Between { c with srvGone := true, broken := e } := by
  have nl : ¬ live ({ c with srvGone := true, broken := e } : Conn) := fun hl => by cases hl.2.1
  exact ⟨h.sess.of_judge rfl rfl rfl h.sess.ji.stop (fun hl => absurd hl nl), fun hl => absurd hl nl⟩

theorem between_drop (c : Conn) (h : Between c) : Between { c.ev .drop with srvGone := true } := by
  have nl : ¬ live ({ c.ev .drop with srvGone := true } : Conn) := fun hl => by cases hl.2.1
  have hj : judge ({ c.ev .drop with srvGone := true } : Conn).trace =
      if (judge c.trace).stopped then judge c.trace else { judge c.trace with closed := true, pending := none } := by
    show judge (c.ev .drop).trace = _
    rw [judge_ev]; rfl
  refine ⟨h.sess.of_judge hj ?_ ?_ ?_ (fun hl => absurd hl nl), fun hl => absurd hl nl⟩
  · split <;> rfl
  · split <;> rfl
  · exact Eq.trans (by split <;> rfl) h.sess.ji.stop

theorem between_cmd (c : Conn) (v : Verb) (line : Bytes) (n : Nat) (h : Between c) (hv : neutralVerb v = true) :
    Between (c.cmd v line n).1 := by
  have hvok : live c → (judge c.trace).vOk v = true := by
    intro hl
    have := h.idle hl
    cases v <;> simp [neutralVerb] at hv <;> simp [J.vOk, this]
  refine ⟨sess_cmd c v line n h.sess hvok, idle_cmd c v line n h.sess.ji h.idle ?_⟩
  cases v <;> simp [neutralVerb] at hv <;> decide

theorem between_ehlo (c : Conn) (h : Between c) : Between c.ehlo.1 := by
  obtain ⟨e1, e2, e3, e4, e5, _⟩ := ehlo_facts c h.sess.ji
  refine ⟨⟨e1, ?_⟩, e2 h.idle⟩
  intro a b; rw [e3] at a; rw [e4] at b; exact e5 (h.sess.hello a b)

theorem between_kept : CmdKeptDial Between where
  cmd v line n hv h := between_cmd _ v line n h hv
  hello h := ⟨(hello_facts _ h.sess).1, (hello_facts _ h.sess).2.1 h.idle⟩
  close h := h.sess.between_close
  updateDeadline {c} h := by
    unfold Conn.updateDeadline
    split
    · exact h
    · exact between_of_eq _ _ (between_ev c .deadline h step_deadline) rfl
  ehlo h := between_ehlo _ h
  set _ _ _ _ _ h := between_of_eq _ _ h rfl
  handshake {c} h := by
    unfold Conn.handshake
    by_cases hg : c.srvGone = true
    · rw [if_pos hg]; exact h
    rw [if_neg hg]
    by_cases hs : c.srvSilent = true
    · rw [if_pos hs]; exact between_waitSilent _ h
    rw [if_neg hs]
    have h1 := between_pop _ h
    split
    · exact between_ev _ _ h1 step_tlsOn
    · exact between_drop _ h1
    · exact between_waitSilent _ (between_silent _ h1)
    · exact between_gone _ _ (between_ev _ _ h1 step_tlsFail)

end GoMail.Smtp
