import GoMailModel.Smtp.Dial
import GoMailModel.Proofs.Exchange
/-
  What every operation of the session model keeps. The operations change a connection only through a
  few primitive steps: they append an event, change the server's condition or the client's bookkeeping,
  shut the client's end, arm the deadline. A property that survives each of these (`Kept`) survives
  every operation built from them; the invariants of C03, C07, C16, C17 and C19 are instances.

  The proofs walk the body of an operation: `match call, fact with` takes a call apart together with
  the fact about it, `split` decides an `if`. Where the remaining goal is large (`clientTLS`) the walk
  generalises the call and decides an `if` by `by_cases` instead, and `startTLS` is first cut in two
  (`startTLS_eq` with `Conn.handshake`); DESIGN.md 4.1, note (b), says why.

  Not covered by `Kept`: `Conn.endData` and `sendOne`. They append `.eod`, `.content` or a wait, which
  `Kept.ev` excludes (`quietEv`), and every invariant so far changes across them. `sendOne` is walked
  once, in Proofs/SendOne (`sendOne_outline`: one hypothesis per step of sendSingleMsg); each invariant
  supplies the facts about the steps (`good_sendOne`, `sendOne_acks`, `sendOne_between`, C03's
  `sendOne_out`). `CmdKept.sendLoop`, `sendBatch` and `dialAndSend` take the fact about one message as
  a premise.
-/
namespace GoMail.Smtp
open GoMail

/-- What is left of a connection once the server's condition (script, what it has seen, whether it is
    still there) and the client's bookkeeping (hello state, extensions, HELO name, DSN settings, log) are
    blanked. -/
def Conn.obs (c : Conn) : Conn :=
  { script := [], trace := c.trace, cliOpen := c.cliOpen, armed := c.armed, isConnected := c.isConnected,
    serverName := c.serverName, tls := c.tls, debug := c.debug, logAuthData := c.logAuthData,
    authActive := c.authActive }

/-- The events a `Kept` property must survive. Excluded are the three some instance reads: a wait (`Good`
    looks at its flag; `Kept.wait` covers the wait recorded with the flag of the moment) and the two
    events of the DATA phase (`acks`). They are appended only by `waitSilent`, `Conn.endData` and `sendOne`. -/
def quietEv : Ev → Bool
  | .eod | .content _ _ | .stall _ => false
  | _ => true

/-- `P` survives the primitive steps. `obs`: `P` reads only the fields `Conn.obs` keeps, so a change to
    any of the others is `congr … rfl`. -/
structure Kept (P : Conn → Prop) : Prop where
  obs : ∀ {c : Conn}, P c ↔ P c.obs
  ev : ∀ {c : Conn} (e : Ev), quietEv e = true → P c → P (c.ev e)
  /-- a wait is recorded with the deadline flag of the moment -/
  wait : ∀ {c : Conn}, P c → P (c.ev (.stall c.armed))
  shut : ∀ {c : Conn}, P c → P { c with cliOpen := false, isConnected := false }
  arm : ∀ {c : Conn}, P c → P { c with armed := true }

namespace Kept
variable {P : Conn → Prop} (k : Kept P)
include k

theorem congr {c c' : Conn} (h : P c) (e : c'.obs = c.obs) : P c' :=
  k.obs.mpr (e ▸ k.obs.mp h)

theorem log {c : Conn} (r : LogRec) (h : P c) : P (c.log r) := by
  unfold Conn.log; split
  · exact k.congr h rfl
  · exact h

theorem close {c : Conn} (h : P c) : P c.close := by
  unfold Conn.close; split
  · exact k.shut (k.ev .close rfl h)
  · rename_i ho
    exact k.congr (k.shut h) (by simp [Conn.obs, ho])

theorem pop {c : Conn} (h : P c) : P c.pop.2 := by
  unfold Conn.pop; split
  · exact h
  · exact k.congr h rfl

theorem waitSilent {c : Conn} (h : P c) : P c.waitSilent.1 := k.wait h

theorem replied {c : Conn} (v : Verb) (n code : Nat) (t : Bytes) (h : P c) : P (c.replied v n code t).1 := by
  rw [replied_fst]
  exact k.congr (k.ev (.reply code) rfl h) rfl

theorem applyAct {c : Conn} (v : Verb) (n : Nat) (a : Act) (h : P c) : P (c.applyAct v n a).1 := by
  cases a with
  | ok => exact k.replied v n _ _ h
  | reply code text => exact k.replied v n code text h
  | drop => exact k.congr (k.ev .drop rfl h) rfl
  | stall => exact k.waitSilent (c := { c with srvSilent := true }) (k.congr h rfl)
  | garbage => exact k.ev .garbage rfl h
  | tlsBad => exact k.ev .garbage rfl h
  | deaf => exact k.congr (k.replied v n _ _ h) rfl

theorem serverTurn {c : Conn} (v : Verb) (n : Nat) (h : P c) : P (c.serverTurn v n).1 := by
  unfold Conn.serverTurn
  split
  · exact h
  · split
    · exact k.waitSilent h
    · exact k.applyAct v n _ (k.pop h)

theorem send {c : Conn} (v : Verb) (line : Bytes) (h : P c) : P (c.send v line) := by
  unfold Conn.send; split
  · exact h
  · exact k.ev _ rfl h

theorem cmd {c : Conn} (v : Verb) (line : Bytes) (n : Nat) (h : P c) : P (c.cmd v line n).1 := by
  unfold Conn.cmd
  split
  · exact k.log _ h
  · exact k.log _ (k.serverTurn v n (k.send v line (k.log _ h)))

theorem updateDeadline {c : Conn} (h : P c) : P c.updateDeadline.1 := by
  unfold Conn.updateDeadline
  split
  · exact h
  · exact k.arm (k.ev .deadline rfl h)

/-- the shape most operations have: a command, the error handed on -/
theorem cmdOpt {c : Conn} (v : Verb) (line : Bytes) (n : Nat) (h : P c) :
    P (match c.cmd v line n with | (c, .error e) => (c, some e) | (c, .ok _) => (c, (none : Option Err))).1 := by
  match c.cmd v line n, k.cmd v line n h with
  | (_, .error _), hc => exact hc
  | (_, .ok _), hc => exact hc

theorem ehlo {c : Conn} (h : P c) : P c.ehlo.1 := by
  unfold Conn.ehlo
  match c.cmd .ehlo (sb "EHLO " ++ c.localName) 250, k.cmd .ehlo (sb "EHLO " ++ c.localName) 250 h with
  | (_, .error _), hc => exact hc
  | (_, .ok _), hc =>
    dsimp only
    split <;> exact k.congr hc rfl

theorem helo {c : Conn} (h : P c) : P c.helo.1 :=
  k.cmdOpt (c := { c with ext := none }) _ _ _ (k.congr h rfl)

theorem hello {c : Conn} (h : P c) : P c.hello.1 := by
  unfold Conn.hello
  split
  · exact h
  · simp only []
    match Conn.ehlo { c with didHello := true }, k.ehlo (c := { c with didHello := true }) (k.congr h rfl) with
    | (_, none), h1 => exact h1
    | (_, some _), h1 => exact k.congr (k.helo h1) rfl

theorem mail {c : Conn} (s : Bytes) (h : P c) : P (c.mail s).1 := by
  unfold Conn.mail
  split
  · exact h
  · match c.hello, k.hello h with
    | (_, some _), h1 => exact h1
    | (_, none), h1 => exact k.cmdOpt _ _ _ h1

theorem rcpt {c : Conn} (s : Bytes) (h : P c) : P (c.rcpt s).1 := by
  unfold Conn.rcpt
  split
  · exact h
  · exact k.cmdOpt _ _ _ h

theorem data {c : Conn} (h : P c) : P c.data.1 := k.cmdOpt _ _ _ h

theorem rcptLoop (esc : Bool) {c : Conn} (rs : List Bytes) (se : SendErr) (bad : Bool) (h : P c) :
    P (rcptLoop esc c rs se bad).1 := by
  induction rs generalizing c se bad with
  | nil => exact h
  | cons r rest ih =>
    unfold Smtp.rcptLoop
    match c.rcpt (envelopeAddress r), k.rcpt (envelopeAddress r) h with
    | (_, none), h1 => exact ih se bad h1
    | (_, some _), h1 => exact ih _ true h1

end Kept

/-
Session legality (`Between`, Proofs/Legal*) is not kept by the primitive steps - between the command
and its reply the judge is waiting - but by every whole command that may be sent while no transaction
is open, by hello() and by Close. That is all the operations around a mail transaction need. -/

/-- commands that are legal whenever no transaction is open -/
def neutralVerb : Verb → Bool
  | .ehlo | .helo | .rset | .noop | .quit | .authStep | .authAbort | .starttls | .auth => true
  | _ => false

structure CmdKept (P : Conn → Prop) : Prop where
  cmd : ∀ {c : Conn} (v : Verb) (line : Bytes) (n : Nat), neutralVerb v = true → P c → P (c.cmd v line n).1
  hello : ∀ {c : Conn}, P c → P c.hello.1
  close : ∀ {c : Conn}, P c → P c.close
  updateDeadline : ∀ {c : Conn}, P c → P c.updateDeadline.1

theorem Kept.toCmd {P : Conn → Prop} (k : Kept P) : CmdKept P :=
  ⟨fun v l n _ => k.cmd v l n, k.hello, k.close, k.updateDeadline⟩

namespace CmdKept
variable {P : Conn → Prop} (k : CmdKept P)
include k

theorem extension {c : Conn} (s : String) (h : P c) : P (c.extension s).1 := by
  unfold Conn.extension
  match c.hello, k.hello h with
  | (_, some _), h1 => exact h1
  | (_, none), h1 => exact h1

theorem simple {c : Conn} (v : Verb) (l : String) (n : Nat) (hv : neutralVerb v = true) (h : P c) :
    P (c.simple v l n).1 := by
  unfold Conn.simple
  match c.hello, k.hello h with
  | (_, some _), h1 => exact h1
  | (c1, none), h1 =>
    dsimp only
    match c1.cmd v (sb l) n, k.cmd v (sb l) n hv h1 with
    | (_, .error _), h2 => exact h2
    | (_, .ok _), h2 => exact h2

theorem reset {c : Conn} (h : P c) : P c.reset.1 := k.simple _ _ _ rfl h
theorem noop {c : Conn} (h : P c) : P c.noop.1 := k.simple _ _ _ rfl h

theorem quit {c : Conn} (h : P c) : P c.quit.1 := by
  unfold Conn.quit
  dsimp only
  match c.hello.1.cmd .quit (sb "QUIT") 221, k.cmd .quit (sb "QUIT") 221 rfl (k.hello h) with
  | (_, .error _), hc => exact hc
  | (_, .ok _), hc => exact k.close hc

theorem checkConn (cfg : SendCfg) {c : Conn} (h : P c) : P (checkConn cfg c).1 := by
  unfold Smtp.checkConn
  split
  · exact h
  · match c.updateDeadline, k.updateDeadline h with
    | (_, false), h1 => exact h1
    | (c1, true), h1 =>
      dsimp only
      split
      · exact h1
      · match c1.noop, k.noop h1 with
        | (_, some _), h2 => exact h2
        | (_, none), h2 => exact h2

theorem resetWith (cfg : SendCfg) {c : Conn} (h : P c) : P (resetWith cfg c).1 := by
  unfold Smtp.resetWith
  match Smtp.checkConn cfg c, k.checkConn cfg h with
  | (_, some _), h1 => exact h1
  | (_, none), h1 => exact k.reset h1

theorem abortTx {c : Conn} (se : SendErr) (h : P c) : P (abortTx c se).1 := by
  unfold Smtp.abortTx
  match c.reset, k.reset h with
  | (_, some _), h1 => exact k.close h1
  | (_, none), h1 => exact h1

theorem closeWith {c : Conn} (h : P c) : P (closeWith c).1 := by
  unfold Smtp.closeWith
  split
  · exact h
  · simp only []
    match c.updateDeadline.1.quit, k.quit (k.updateDeadline h) with
    | (_, some _), h2 => exact k.close h2
    | (_, none), h2 => exact h2

theorem authLoop {σ} (a : Mech σ) (mech : Bytes) (fuel : Nat) {c : Conn} (st : σ)
    (r : Except Err (Nat × Bytes)) (h : P c) : P (authLoop a mech fuel c st r).1 := by
  induction fuel generalizing c st r with
  | zero => exact h
  | succ n ih =>
    unfold Smtp.authLoop
    cases r with
    | error e => exact h
    | ok v =>
      dsimp only
      split
      · have h1 : P (if mech != sb "XOAUTH2" then (c.cmd .authAbort (sb "*") 501).1 else c) := by
          split
          · exact k.cmd _ _ _ rfl h
          · exact h
        exact k.quit h1
      · exact h
      · exact ih _ _ (k.cmd _ _ _ rfl h)

omit k in
/-- The send path around `sendOne`: the per-message fact is a premise, which each invariant gets from the
    outline of `sendOne` (Proofs/SendOne, `sendOne_outline`). -/
theorem sendLoop (cfg : SendCfg) (one : ∀ {c : Conn} (i : Nat) (m : MsgIn), P c → P (sendOne cfg c i m false).1)
    {c : Conn} (i : Nat) (ms : List MsgIn) (h : P c) : P (Smtp.sendLoop cfg c i ms).1 := by
  induction ms generalizing c i with
  | nil => exact h
  | cons m rest ih => exact ih _ (one i m h)

theorem sendBatch (cfg : SendCfg) (one : ∀ {c : Conn} (i : Nat) (m : MsgIn), P c → P (sendOne cfg c i m false).1)
    {c : Conn} (ms : List MsgIn) (h : P c) : P (Smtp.sendBatch cfg c ms).1 := by
  unfold Smtp.sendBatch
  dsimp only
  match Smtp.checkConn cfg (c.extension "ENHANCEDSTATUSCODES").1, k.checkConn cfg (k.extension "ENHANCEDSTATUSCODES" h) with
  | (_, some _), h2 => exact h2
  | (c2, none), h2 => exact sendLoop cfg one 0 ms h2

theorem dialAndSend (cfg : DialCfg) (script : List Act) (caps : List Bytes) (ms : List MsgIn)
    (hd : P (dial cfg script caps).1)
    (one : ∀ {c : Conn} (i : Nat) (m : MsgIn), P c → P (sendOne cfg.send c i m false).1) :
    P (dialAndSend cfg script caps ms).conn := by
  unfold Smtp.dialAndSend
  match dial cfg script caps, hd with
  | (_, some _), h0 => exact h0
  | (c0, none), h0 =>
    dsimp only
    match Smtp.sendBatch cfg.send c0 ms, k.sendBatch cfg.send one ms h0 with
    | (c1, none, _), h1 => exact k.closeWith h1
    | (c1, some outs, _), h1 =>
      dsimp only
      split
      · exact k.closeWith h1
      · exact k.closeWith (k.closeWith h1)

end CmdKept

/-- the handshake position of the script, as `Conn.startTLS` plays it once the server has said 220 -/
def Conn.handshake (c : Conn) : Conn × Option Err :=
  if c.srvGone then (c, some .eof)
  else if c.srvSilent then (c.waitSilent.1, some (if c.armed then .timeout else .blocked))
  else match c.pop.1 with
    | .ok => (c.pop.2.ev .tlsOn, none)
    | .drop => ({ c.pop.2.ev .drop with srvGone := true }, some .eof)
    | .stall => (({ c.pop.2 with srvSilent := true }).waitSilent.1, some (if c.pop.2.armed then .timeout else .blocked))
    | _ => ({ c.pop.2.ev .tlsFail with srvGone := true, broken := some .tls }, some .tls)

theorem startTLS_eq (c : Conn) : c.startTLS =
    match c.hello with
    | (c, some e) => (c, some e)
    | (c, none) =>
      match c.cmd .starttls (sb "STARTTLS") 220 with
      | (c, .error e) => (c, some e)
      | (c, .ok _) =>
        match ({ c with tls := true } : Conn).handshake with
        | (c, none) => c.ehlo
        | (c, some e) => (c, some e) := by
  unfold Conn.startTLS Conn.handshake
  rcases c.hello with ⟨c1, _ | e⟩
  · dsimp only
    rcases c1.cmd .starttls (sb "STARTTLS") 220 with ⟨c2, e | r⟩
    · rfl
    · dsimp only
      by_cases hg : c2.srvGone = true
      · rw [if_pos hg, if_pos hg]
      rw [if_neg hg, if_neg hg]
      by_cases hs : c2.srvSilent = true
      · rw [if_pos hs, if_pos hs]
      rw [if_neg hs, if_neg hs]
      generalize (Conn.pop _).1 = a
      cases a <;> rfl
  · rfl

/-- kept by the dial as well: by EHLO on its own (after the handshake), by the handshake, and by the
    client changing its HELO name, the `tls` flag or the log switches -/
structure CmdKeptDial (P : Conn → Prop) : Prop extends CmdKept P where
  ehlo : ∀ {c : Conn}, P c → P c.ehlo.1
  handshake : ∀ {c : Conn}, P c → P c.handshake.1
  set : ∀ {c : Conn} (name : Bytes) (t a d l : Bool), P c →
    P { c with localName := name, tls := t, authActive := a, debug := d, logAuthData := l }

namespace CmdKeptDial
variable {P : Conn → Prop} (k : CmdKeptDial P)
include k

theorem Hello {c : Conn} (name : Bytes) (h : P c) : P (c.Hello name).1 := by
  unfold Conn.Hello
  split
  · exact h
  · split
    · exact h
    · exact k.hello (c := { c with localName := name }) (k.set name _ _ _ _ h)

theorem startTLS {c : Conn} (h : P c) : P c.startTLS.1 := by
  rw [startTLS_eq]
  match c.hello, k.hello h with
  | (_, some _), h1 => exact h1
  | (c1, none), h1 =>
    dsimp only
    match c1.cmd .starttls (sb "STARTTLS") 220, k.cmd .starttls (sb "STARTTLS") 220 rfl h1 with
    | (_, .error _), h2 => exact h2
    | (c2, .ok _), h2 =>
      dsimp only
      match Conn.handshake { c2 with tls := true }, k.handshake (c := { c2 with tls := true }) (k.set _ true _ _ _ h2) with
      | (_, none), h3 => exact k.ehlo h3
      | (_, some _), h3 => exact h3

theorem authWith {σ} {c : Conn} (a : Mech σ) (h : P c) : P (c.authWith a).1 := by
  unfold Conn.authWith
  match c.hello, k.hello h with
  | (_, some _), h1 => exact h1
  | (c1, none), h1 =>
    dsimp only
    have h2 : P (if !c1.logAuthData then { c1 with authActive := true } else c1) := by
      split
      · exact k.set _ _ true _ _ h1
      · exact h1
    have hdone : ∀ c : Conn, P c → P (if !c.logAuthData then { c with authActive := false } else c) := by
      intro c hc
      split
      · exact k.set _ _ false _ _ hc
      · exact hc
    split
    · exact hdone _ (k.quit h2)
    · exact hdone _ (k.authLoop a _ _ _ _ (k.cmd _ _ _ rfl h2))

theorem runMech (cfg : DialCfg) {c : Conn} (t : AuthType) (h : P c) : P (runMech cfg c t).1 := by
  unfold Smtp.runMech
  dsimp only
  cases t with
  | noAuth | autoDiscover | custom => exact h
  | scramSHA1Plus | scramSHA256Plus =>
    -- the PLUS variants first ask for the TLS state
    dsimp only
    split
    · exact h
    · split
      · exact h
      · exact k.authWith _ h
  | _ => exact k.authWith _ h

theorem clientAuth (cfg : DialCfg) {c : Conn} (enc : Bool) (h : P c) : P (clientAuth cfg c enc).1 := by
  unfold Smtp.clientAuth
  split
  · exact h
  · match c.extension "AUTH", k.extension "AUTH" h with
    | (c1, has), h1 =>
      dsimp only
      -- whichever way the mechanism is chosen, the connection is `c1` or what `runMech` makes of it
      repeat' split
      all_goals first
        | exact h1
        | exact k.runMech cfg _ h1

theorem clientTLS (cfg : DialCfg) {c : Conn} (enc : Bool) (h : P c) : P (clientTLS cfg c enc).1 := by
  unfold Smtp.clientTLS
  by_cases h0 : (cfg.useSSL || cfg.policy == .noTLS) = true
  · rw [if_pos h0]; exact h
  rw [if_neg h0]
  have h1 := k.extension "STARTTLS" h
  generalize c.extension "STARTTLS" = p at h1 ⊢
  obtain ⟨c1, ext⟩ := p
  dsimp only at h1 ⊢
  by_cases hm : (cfg.policy == .mandatory && !ext) = true
  · rw [if_pos hm]; exact h1
  rw [if_neg hm]
  have h2 : P (if (cfg.policy == .mandatory || ext) = true then c1.startTLS else (c1, none)).1 := by
    split
    · exact k.startTLS h1
    · exact h1
  generalize (if (cfg.policy == .mandatory || ext) = true then c1.startTLS else (c1, none)) = q at h2 ⊢
  obtain ⟨c2, _ | e⟩ := q
  · dsimp only
    split
    · exact h2
    · split <;> exact h2
  · exact h2

theorem dial (cfg : DialCfg) (script : List Act) (caps : List Bytes) (h : P (newClient cfg script caps).1) :
    P (dial cfg script caps).1 := by
  unfold Smtp.dial
  match Smtp.newClient cfg script caps, h with
  | (_, some _), h0 => exact h0
  | (c0, none), h0 =>
    dsimp only
    match Conn.Hello { c0 with debug := cfg.debug, logAuthData := cfg.logAuthData } cfg.helo,
        k.Hello (c := { c0 with debug := cfg.debug, logAuthData := cfg.logAuthData }) cfg.helo (k.set _ _ _ _ _ h0) with
    | (_, some _), h1 => exact k.close h1
    | (c1, none), h1 =>
      dsimp only
      match Smtp.clientTLS cfg c1 cfg.implicitTLS, k.clientTLS cfg cfg.implicitTLS h1 with
      | (_, _, some _), h2 => exact k.close h2
      | (c2, enc, none), h2 =>
        dsimp only
        match Smtp.clientAuth cfg c2 enc, k.clientAuth cfg enc h2 with
        | (_, some _), h3 => exact k.close h3
        | (_, none), h3 => exact h3

end CmdKeptDial

/-- primitive steps again: kept by the dial as well, that is by StartTLS setting the `tls` flag, Auth
    opening and closing the redaction window, and the dial copying the log switches -/
structure KeptDial (P : Conn → Prop) : Prop extends Kept P where
  flags : ∀ {c : Conn} (t a d l : Bool), P c → P { c with tls := t, authActive := a, debug := d, logAuthData := l }

namespace KeptDial
variable {P : Conn → Prop} (k : KeptDial P)
include k

theorem toCmd : CmdKeptDial P where
  toCmdKept := k.toKept.toCmd
  ehlo := k.ehlo
  set _ t a d l h := k.congr (k.flags t a d l h) rfl
  handshake {c} h := by
    unfold Conn.handshake
    by_cases hg : c.srvGone = true
    · rw [if_pos hg]; exact h
    rw [if_neg hg]
    by_cases hs : c.srvSilent = true
    · rw [if_pos hs]; exact k.waitSilent h
    rw [if_neg hs]
    have h1 := k.pop h
    split
    · exact k.ev .tlsOn rfl h1
    · exact k.congr (k.ev .drop rfl h1) rfl
    · exact k.waitSilent (c := { c.pop.2 with srvSilent := true }) (k.congr h1 rfl)
    · exact k.congr (k.ev .tlsFail rfl h1) rfl

/-- the premise is about the connection after the deadline was armed: that is where `Good` begins to hold -/
theorem newClient (cfg : DialCfg) (script : List Act) (caps : List Bytes)
    (h : P (freshConn cfg script caps).updateDeadline.1) : P (newClient cfg script caps).1 := by
  unfold Smtp.newClient
  match Conn.serverTurn (freshConn cfg script caps).updateDeadline.1 .greeting 220,
      k.serverTurn .greeting 220 h with
  | (_, .error _), h1 => exact k.close h1
  | (_, .ok _), h1 => exact h1

theorem dial (cfg : DialCfg) (script : List Act) (caps : List Bytes)
    (h : P (freshConn cfg script caps).updateDeadline.1) : P (dial cfg script caps).1 :=
  k.toCmd.dial cfg script caps (k.newClient cfg script caps h)

end KeptDial

theorem fresh_armed (cfg : DialCfg) (script : List Act) (caps : List Bytes) :
    (freshConn cfg script caps).updateDeadline.1 =
      { freshConn cfg script caps with trace := (if cfg.implicitTLS then [.connect, .tlsOn] else [.connect]) ++ [.deadline],
                                       armed := true } := rfl

end GoMail.Smtp
