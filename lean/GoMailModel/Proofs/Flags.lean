import GoMailModel.Proofs.Kept
/-
  The switches no command exchange touches: the `tls` flag and the server name (what PLAIN and LOGIN
  look at before they hand out the password) and the redaction switches of the debug log. Only
  StartTLS sets `tls`, and only after the server has answered the command with 220; only Auth opens
  the redaction window (that it closes it again on every path is C16's `window_closes`).
-/
namespace GoMail.Smtp
open GoMail

structure SameFlags (c c' : Conn) : Prop where
  tls : c'.tls = c.tls
  serverName : c'.serverName = c.serverName
  authActive : c'.authActive = c.authActive
  logAuthData : c'.logAuthData = c.logAuthData

theorem sameFlags_kept (c : Conn) : Kept (SameFlags c) where
  obs := ⟨fun h => ⟨h.1, h.2, h.3, h.4⟩, fun h => ⟨h.1, h.2, h.3, h.4⟩⟩
  ev _ _ h := ⟨h.1, h.2, h.3, h.4⟩
  wait h := ⟨h.1, h.2, h.3, h.4⟩
  shut h := ⟨h.1, h.2, h.3, h.4⟩
  arm h := ⟨h.1, h.2, h.3, h.4⟩

theorem SameFlags.refl (c : Conn) : SameFlags c c := ⟨rfl, rfl, rfl, rfl⟩

/-- **StartTLS and the flag.** On a connection that is not TLS, StartTLS leaves the `tls` flag set only
    if the implicit EHLO succeeded AND the server answered the STARTTLS command with 220 - whatever
    the script is. A refused, garbled or unanswered STARTTLS leaves the connection marked as clear text. -/
theorem startTLS_sets_flag_only_after_220 (c : Conn) (h0 : c.tls = false) (h1 : c.startTLS.1.tls = true) :
    c.hello.2 = none ∧ ∃ r, (c.hello.1.cmd .starttls (sb "STARTTLS") 220).2 = .ok r := by
  have k := sameFlags_kept c
  unfold Conn.startTLS at h1
  match c.hello, k.hello (.refl c), h1 with
  | (_, some _), hh, h1 => rw [show _ = _ from hh.tls, h0] at h1; cases h1
  | (c1, none), hh, h1 =>
    simp only at h1 ⊢
    match c1.cmd .starttls (sb "STARTTLS") 220, k.cmd .starttls (sb "STARTTLS") 220 hh, h1 with
    | (_, .error _), hc, h1 => rw [show _ = _ from hc.tls, h0] at h1; cases h1
    | (_, .ok v), _, _ => exact ⟨trivial, v, rfl⟩

theorem startTLS_serverName (c : Conn) : c.startTLS.1.serverName = c.serverName := by
  have key : KeptDial (fun c' => c'.serverName = c.serverName) :=
    { obs := Iff.rfl, ev := fun _ _ h => h, wait := id, shut := id, arm := id, flags := fun _ _ _ _ h => h }
  exact key.toCmd.startTLS rfl

end GoMail.Smtp
