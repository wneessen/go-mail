import GoMailModel.Mime.Exec
/-
  Lemmas about the plan interpreter: byte accounting, error stickiness against a destination that
  has stopped accepting, the behaviour on a destination that never fails, and the error of a failing
  producer, which stays unless a later action clears it.
-/
namespace GoMail.Mime
open GoMail

/-- What every write on the destination and every assignment to the error keep, the interpreter keeps:
    `step` adds nothing to these two but the guards that skip them. -/
theorem exec_inv (I : MW → Prop) (hput : ∀ m b, I m → I (m.put b)) (hset : ∀ m v, I m → I (m.setErr v))
    (plan : List WAct) (m : MW) (h : I m) : I (exec plan m) := by
  have hguarded : ∀ m b, I m → I (m.guarded b) := by
    intro m b h
    unfold MW.guarded
    split
    · exact h
    · exact hput m b h
  have hstep : ∀ m a, I m → I (step m a) := by
    intro m a h
    cases a with
    | w pre b =>
      cases pre with
      | none => exact hguarded m b h
      | some v => exact hguarded _ b (hset m v h)
    | body direct b pf =>
      simp only [step]
      split
      · exact h
      · have hm : I (if pf then m.setErr true else m) := by
          split
          · exact hset m true h
          · exact h
        split
        · exact hput _ b hm
        · exact hguarded _ b hm
  unfold exec
  induction plan generalizing m with
  | nil => exact h
  | cons a as ih => exact ih (step m a) (hstep m a h)

/-- the invariant "bytesWritten = bytes the destination accepted" -/
def Counted (m : MW) : Prop := m.n = m.sink.acc.length

theorem room_le (s : Sink) (len : Nat) : s.room len ≤ len := by
  unfold Sink.room; split <;> omega

theorem put_counted (m : MW) (b : Bytes) (h : Counted m) : Counted (m.put b) := by
  unfold Counted MW.put at *
  have := room_le m.sink b.length
  simp [List.length_take, h]; omega

theorem exec_counted (plan : List WAct) (m : MW) (h : Counted m) : Counted (exec plan m) :=
  exec_inv Counted put_counted (fun _ _ h => h) plan m h

/-- the limit of the destination never changes, what it accepted never exceeds it -/
def Within (m : MW) (k : Nat) : Prop := m.sink.limit = some k ∧ m.sink.acc.length ≤ k

theorem put_within (m : MW) (b : Bytes) (k : Nat) (h : Within m k) : Within (m.put b) k := by
  unfold Within MW.put Sink.room at *
  obtain ⟨h1, h2⟩ := h
  simp [h1, List.length_take]; omega

theorem exec_within (plan : List WAct) (m : MW) (k : Nat) (h : Within m k) : Within (exec plan m) k :=
  exec_inv (Within · k) (fun m b => put_within m b k) (fun _ _ h => h) plan m h

/-- the action cannot set the error for a reason other than the destination (no failing producer, no
    invalid boundary), and an assignment `mw.err = nil` (startMP with a valid boundary) is followed, in
    the same action, by a non-empty write -/
def SinkOnly : WAct → Prop
  | .w none _ => True
  | .w (some v) b => v = false ∧ b ≠ []
  | .body _ _ pf => pf = false

theorem step_noerr (m : MW) (a : WAct) (hs : SinkOnly a) (he : m.err = false) : step m a = m.put a.bytes := by
  cases a with
  | w pre b =>
    cases pre with
    | none => simp [step, MW.guarded, he, WAct.bytes]
    | some v =>
      obtain ⟨rfl, _⟩ := hs
      have : m.setErr false = m := by rw [← he]; rfl
      simp [step, MW.guarded, this, he, WAct.bytes]
  | body direct b pf =>
    have hpf : pf = false := hs
    subst hpf
    cases direct <;> simp [step, MW.guarded, he, WAct.bytes]

/-- once the destination is full and the error is set, a sink-only action changes nothing: a guarded write is
    skipped, and the non-empty write that follows a cleared error is refused whole and sets the error again -/
theorem step_full (m : MW) (a : WAct) (k : Nat) (hs : SinkOnly a) (he : m.err = true)
    (hl : m.sink.limit = some k) (hk : m.sink.acc.length = k) : step m a = m := by
  cases a with
  | w pre b =>
    cases pre with
    | none => simp [step, MW.guarded, he]
    | some v =>
      obtain ⟨rfl, hb⟩ := hs
      have hpos : 0 < b.length := List.length_pos_iff.mpr hb
      obtain ⟨n, err, acc, limit⟩ := m
      simp only [] at he hl hk
      subst he hl hk
      simp [step, MW.guarded, MW.setErr, MW.put, Sink.room, hpos]
  | body direct b pf => simp [step, he]

/-- "the error is set exactly when the destination has refused something", plus: while no error is
    set, everything planned so far has been accepted -/
structure FailInv (m : MW) (k : Nat) (planned : Bytes) : Prop where
  within : Within m k
  acc_prefix : m.sink.acc = planned.take m.sink.acc.length
  noerr_all : m.err = false → m.sink.acc = planned
  err_full : m.err = true → m.sink.acc.length = k ∧ k < planned.length

theorem put_failinv (m : MW) (b : Bytes) (k : Nat) (planned : Bytes) (h : FailInv m k planned)
    (hne : m.err = false) : FailInv (m.put b) k (planned ++ b) := by
  have hall := h.noerr_all hne
  obtain ⟨hl, hle⟩ := h.within
  rw [hall] at hle
  have hacc : (m.put b).sink.acc = planned ++ b.take (min b.length (k - planned.length)) := by
    simp [MW.put, Sink.room, hl, hall]
  have herr : (m.put b).err = decide (k - planned.length < b.length) := by
    simp only [MW.put, Sink.room, hl, hall, hne, Bool.false_or]
    exact decide_eq_decide.mpr (by omega)
  refine ⟨put_within m b k h.within, ?_, ?_, ?_⟩
  · rw [hacc]
    exact List.prefix_iff_eq_take.mp ((List.prefix_append_right_inj _).mpr (List.take_prefix _ _))
  · intro he
    rw [herr, decide_eq_false_iff_not] at he
    rw [hacc, List.take_of_length_le (by omega)]
  · intro he
    rw [herr, decide_eq_true_eq] at he
    rw [hacc]
    simp only [List.length_append, List.length_take]
    omega

theorem step_failinv (m : MW) (a : WAct) (k : Nat) (planned : Bytes) (hs : SinkOnly a)
    (h : FailInv m k planned) : FailInv (step m a) k (planned ++ a.bytes) := by
  cases he : m.err with
  | false =>
    rw [step_noerr m a hs he]
    exact put_failinv m a.bytes k planned h he
  | true =>
    obtain ⟨h1, h2⟩ := h.err_full he
    rw [step_full m a k hs he h.within.1 h1]
    refine ⟨h.within, ?_, ?_, ?_⟩
    · rw [List.take_append_of_le_length (by omega)]
      exact h.acc_prefix
    · intro h'
      rw [he] at h'
      cases h'
    · intro _
      exact ⟨h1, by simp only [List.length_append]; omega⟩

theorem exec_failinv (plan : List WAct) (m : MW) (k : Nat) (planned : Bytes)
    (hs : ∀ a ∈ plan, SinkOnly a) (h : FailInv m k planned) :
    FailInv (exec plan m) k (planned ++ planBytes plan) := by
  unfold exec
  induction plan generalizing m planned with
  | nil => simpa [planBytes] using h
  | cons a as ih =>
    have h1 := step_failinv m a k planned (hs a (by simp)) h
    have := ih (step m a) (planned ++ a.bytes) (fun x hx => hs x (by simp [hx])) h1
    simpa [planBytes, List.append_assoc] using this

theorem exec_unlimited (plan : List WAct) (m : MW) (hs : ∀ a ∈ plan, SinkOnly a)
    (hl : m.sink.limit = none) (he : m.err = false) :
    (exec plan m).err = false ∧ (exec plan m).sink.acc = m.sink.acc ++ planBytes plan ∧
      (exec plan m).n = m.n + (planBytes plan).length := by
  unfold exec
  induction plan generalizing m with
  | nil => simp [planBytes, he]
  | cons a as ih =>
    have hput : (m.put a.bytes).err = false ∧ (m.put a.bytes).sink.limit = none ∧
        (m.put a.bytes).sink.acc = m.sink.acc ++ a.bytes ∧ (m.put a.bytes).n = m.n + a.bytes.length := by
      simp [MW.put, Sink.room, hl, he]
    rw [← step_noerr m a (hs a (by simp)) he] at hput
    obtain ⟨k1, k2, k3, k4⟩ := hput
    have := ih (step m a) (fun x hx => hs x (by simp [hx])) k2 k1
    simp only [List.foldl_cons]
    refine ⟨this.1, ?_, ?_⟩
    · rw [this.2.1, k3]; simp [planBytes, List.append_assoc]
    · rw [this.2.2, k4]; simp [planBytes]; omega

/-- not an assignment `mw.err = nil` (startMP with a valid boundary), the only action that takes an
    error back -/
def NotClear (a : WAct) : Prop := ∀ b, a ≠ .w (some false) b

theorem notClear_w (b : Bytes) : NotClear (.w none b) := by intro b' h; cases h
theorem notClear_body (f d : Bool) (b : Bytes) : NotClear (.body d b f) := by intro b' h; cases h

theorem exec_append (a b : List WAct) (m : MW) : exec (a ++ b) m = exec b (exec a m) := by
  simp [exec, List.foldl_append]

theorem exec_err_of_notClear (plan : List WAct) (m : MW) (hn : ∀ a ∈ plan, NotClear a) (he : m.err = true) :
    (exec plan m).err = true := by
  have hstep : ∀ (m : MW) (a : WAct), NotClear a → m.err = true → (step m a).err = true := by
    intro m a hna he
    cases a with
    | w pre b =>
      cases pre with
      | none => simp [step, MW.guarded, he]
      | some v =>
        cases v with
        | false => exact absurd rfl (hna b)
        | true => simp [step, MW.guarded, MW.setErr]
    | body d b pf => simp [step, he]
  unfold exec
  induction plan generalizing m with
  | nil => exact he
  | cons a as ih => exact ih (step m a) (fun x hx => hn x (by simp [hx])) (hstep m a (hn a (by simp)) he)

theorem step_body_fails (m : MW) (d : Bool) (b : Bytes) : (step m (.body d b true)).err = true := by
  cases he : m.err with
  | true => simp [step, he]
  | false => cases d <;> simp [step, he, MW.setErr, MW.guarded, MW.put]

end GoMail.Mime
