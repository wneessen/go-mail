import GoMailModel.Basic.Bytes
/-
  Facts about single bytes: enumeration of `UInt8` in the kernel, the bit fields base64 and hex cut a byte
  into, hex digits.
-/
namespace GoMail

/-- Byte-table facts are proved by enumerating `Fin 256` in the kernel. -/
theorem forall_uint8 {P : UInt8 → Prop} (h : ∀ n : Fin 256, P (UInt8.ofNat n.val)) : ∀ b, P b := by
  intro b
  have := h ⟨b.toNat, b.toNat_lt⟩
  simpa using this

/-- The same for a table over the bytes below `k` only: a bit field, an index into an alphabet. -/
theorem forall_uint8_lt (k : Nat) {P : UInt8 → Prop} (h : ∀ n : Fin k, P (UInt8.ofNat n.val)) :
    ∀ b : UInt8, b.toNat < k → P b := by
  intro b hb
  have := h ⟨b.toNat, hb⟩
  simpa using this

/-- A byte of a class is none of the bytes outside it: `hk` is one evaluation of the class at `k`. -/
theorem ne_of_class (P : UInt8 → Prop) {c k : UInt8} (hc : P c) (hk : ¬ P k) : c ≠ k :=
  fun e => hk (e ▸ hc)

theorem shr_lt (a k : UInt8) (n : Nat) (hk : k < 8) (hn : 256 ≤ n * 2 ^ k.toNat) : (a >>> k).toNat < n := by
  have : k.toNat % 8 = k.toNat := Nat.mod_eq_of_lt (UInt8.lt_iff_toNat_lt.mp hk)
  rw [UInt8.toNat_shiftRight, Nat.shiftRight_eq_div_pow, this, Nat.div_lt_iff_lt_mul (Nat.two_pow_pos _)]
  exact Nat.lt_of_lt_of_le a.toNat_lt hn

theorem and_lt (a m : UInt8) (n : Nat) (hn : m.toNat < n) : (a &&& m).toNat < n :=
  Nat.lt_of_le_of_lt (UInt8.le_iff_toNat_le.mp UInt8.and_le_right) hn

theorem shr2_lt (a : UInt8) : (a >>> 2).toNat < 64 := shr_lt a 2 64 (by decide) (by decide)
theorem shr4_lt (a : UInt8) : (a >>> 4).toNat < 16 := shr_lt a 4 16 (by decide) (by decide)
theorem shr6_lt (a : UInt8) : (a >>> 6).toNat < 4 := shr_lt a 6 4 (by decide) (by decide)
theorem and3_lt (a : UInt8) : (a &&& 3).toNat < 4 := and_lt a 3 4 (by decide)
theorem and15_lt (a : UInt8) : (a &&& 15).toNat < 16 := and_lt a 15 16 (by decide)
theorem and63_lt (a : UInt8) : (a &&& 63).toNat < 64 := and_lt a 63 64 (by decide)

/-- The three cuts base64 makes in a byte (at 2, 4 and 6 bits) and, in arithmetic, the cut hex makes: one
    table, read through `glue2`, `glue4`, `glue6` and `hex_pair`. -/
theorem glue : ∀ a : UInt8, ((a >>> 2) <<< 2) ||| (a &&& 3) = a ∧ ((a >>> 4) <<< 4) ||| (a &&& 15) = a ∧
    ((a >>> 6) <<< 6) ||| (a &&& 63) = a ∧ (a >>> 4) * 16 + (a &&& 15) = a := by
  apply forall_uint8
  decide +kernel

theorem glue2 (a : UInt8) : ((a >>> 2) <<< 2) ||| (a &&& 3) = a := (glue a).1
theorem glue4 (a : UInt8) : ((a >>> 4) <<< 4) ||| (a &&& 15) = a := (glue a).2.1
theorem glue6 (a : UInt8) : ((a >>> 6) <<< 6) ||| (a &&& 63) = a := (glue a).2.2.1

theorem hexDigitU_spec : ∀ n : UInt8, n.toNat < 16 →
    unhex (hexDigitU n) = some n ∧ 48 ≤ hexDigitU n ∧ hexDigitU n ≤ 70 := by
  apply forall_uint8_lt
  decide +kernel

/-- a hex digit is none of the bytes below "0": CR, LF, blank, TAB -/
theorem hexDigitU_ne {n k : UInt8} (hn : n.toNat < 16) (hk : k < 48) : hexDigitU n ≠ k :=
  ne_of_class (48 ≤ ·) (hexDigitU_spec n hn).2.1 (UInt8.not_le.mpr hk)

theorem hex_pair (b : UInt8) : unhex (hexDigitU (b >>> 4)) = some (b >>> 4) ∧
    unhex (hexDigitU (b &&& 15)) = some (b &&& 15) ∧ (b >>> 4) * 16 + (b &&& 15) = b :=
  ⟨(hexDigitU_spec _ (shr4_lt b)).1, (hexDigitU_spec _ (and15_lt b)).1, (glue b).2.2.2⟩

end GoMail
