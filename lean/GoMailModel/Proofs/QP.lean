import GoMailModel.Codec.QP
import GoMailModel.Proofs.ByteTables
/-
  Round trip of Go's quotedprintable.Writer (byte-exact model, Codec/QP.lean) through an RFC 2045
  decoder, for EVERY byte string: decode (encodeBytes xs) = canon false xs, where `canon` is what
  the writer means by its input (line breaks become CRLF; a LF directly after a CR is absorbed).
-/
namespace GoMail.QP
open GoMail

/-- what one input byte means, and the next `cr` flag -/
def emit (cr : Bool) (b : UInt8) : Bytes × Bool :=
  if isLit b then
    if b == 10 || b == 13 then
      if cr && b == 10 then ([], false) else ([13, 10], if b == 13 then true else cr)
    else ([b], false)
  else ([b], cr)                       -- stdlib quirk: an escaped byte does not clear cr

def canon : Bool → Bytes → Bytes
  | _, [] => []
  | cr, b :: r => (emit cr b).1 ++ canon (emit cr b).2 r

theorem emit_false {b : UInt8} (h : b ≠ 13) : emit false b = (if b == 10 then [13, 10] else [b], false) := by
  by_cases h10 : b = 10
  · subst h10; decide
  · unfold emit
    cases isLit b <;> simp [h, h10]

/-- the emitted bytes are a sequence of whole tokens, built at the right end -/
inductive TokR : Bytes → Prop
  | nil : TokR []
  | lit (a : Bytes) (c : UInt8) : TokR a → c ≠ 61 → TokR (a ++ [c])
  | esc (a : Bytes) (b : UInt8) : TokR a → TokR (a ++ enc3 b)
  | soft (a : Bytes) : TokR a → TokR (a ++ [61, 13, 10])

theorem decode_lit (c : UInt8) (rest : Bytes) (h : c ≠ 61) : decode (c :: rest) = c :: decode rest := by
  rw [decode.eq_def]
  split <;> simp_all

theorem decode_enc3 (b : UInt8) (rest : Bytes) : decode (enc3 b ++ rest) = b :: decode rest := by
  -- the first digit is not CR, so this is no soft line break
  have h13 : hexDigitU (b >>> 4) ≠ 13 := hexDigitU_ne (shr4_lt b) (by decide)
  unfold enc3
  simp only [List.cons_append, List.nil_append]
  rw [decode.eq_def]
  split
  · rename_i heq; cases heq
  · rename_i heq; simp only [List.cons.injEq] at heq; exact absurd heq.2.1 h13
  · rename_i x y r heq
    simp only [List.cons.injEq, true_and] at heq
    obtain ⟨hx, hy, hr⟩ := heq
    subst hx; subst hy; subst hr
    simp [hex_pair b]
  · rename_i hn heq
    simp only [List.cons.injEq] at heq
    exact (hn _ _ _ heq.1.symm heq.2.symm).elim

theorem decode_enc3_nil (b : UInt8) : decode (enc3 b) = [b] := by
  simpa [decode] using decode_enc3 b []

theorem decode_soft (rest : Bytes) : decode (61 :: 13 :: 10 :: rest) = decode rest := by
  simp [decode]

theorem dec_app {a : Bytes} (h : TokR a) : ∀ b, decode (a ++ b) = decode a ++ decode b := by
  induction h with
  | nil => intro b; simp [decode]
  | lit a c _ hc ih =>
    intro b
    rw [List.append_assoc, ih, ih, decode_lit c [] hc]
    simp [decode_lit c b hc, decode]
  | esc a x _ ih =>
    intro b
    rw [List.append_assoc, ih, ih, decode_enc3_nil, decode_enc3, List.append_assoc]
    rfl
  | soft a _ ih =>
    intro b
    rw [List.append_assoc, ih, ih]
    simp [decode_soft, decode]

/-- inversion for checkLastByte: a whole-token sequence that ends in a blank ends in a literal -/
theorem TokR.inv_ws {l : Bytes} (h : TokR l) : ∀ a c, l = a ++ [c] → isWS c = true → TokR a := by
  -- the other tokens end in a hex digit or in LF
  have last : ∀ (a' t : Bytes) (x : UInt8) a c,
      a' ++ (t ++ [x]) = a ++ [c] → isWS x = false → isWS c = true → False := by
    intro a' t x a c hl hx hc
    rw [← List.append_assoc] at hl
    cases (List.append_inj' hl rfl).2
    rw [hx] at hc
    cases hc
  cases h with
  | nil => intro a c hl; cases a <;> simp at hl
  | lit a' c' h' _ =>
    intro a c hl _
    rw [← (List.append_inj' hl rfl).1]
    exact h'
  | esc a' b h' =>
    intro a c hl hws
    have : isWS (hexDigitU (b &&& 15)) = false := by
      simp [isWS, hexDigitU_ne (and15_lt b) (by decide : (32 : UInt8) < 48),
        hexDigitU_ne (and15_lt b) (by decide : (9 : UInt8) < 48)]
    exact (last a' [61, hexDigitU (b >>> 4)] _ a c hl this hws).elim
  | soft a' h' =>
    intro a c hl hws
    exact (last a' [61, 13] 10 a c hl (by decide) hws).elim

/-- everything written so far, flushed or still in the line buffer, is a sequence of whole tokens -/
def GoodW (w : W) : Prop := TokR (w.out ++ w.line)
/-- what the RFC decoder makes of everything written so far -/
def D (w : W) : Bytes := decode (w.out ++ w.line)

/-- Appending to the line buffer a string `t` that extends whole-token sequences (`ht`) and decodes to `d`.
    Every writer operation below is an instance; this is the only place `dec_app` is used. -/
theorem push_spec {o l : Bytes} (t d : Bytes) (ht : ∀ a, TokR a → TokR (a ++ t)) (hd : decode t = d)
    (h : TokR (o ++ l)) : TokR (o ++ (l ++ t)) ∧ decode (o ++ (l ++ t)) = decode (o ++ l) ++ d := by
  rw [← List.append_assoc, dec_app h, hd]
  exact ⟨ht _ h, rfl⟩

theorem push_lit {o l : Bytes} (b : UInt8) (hb : b ≠ 61) (h : TokR (o ++ l)) :
    TokR (o ++ (l ++ [b])) ∧ decode (o ++ (l ++ [b])) = decode (o ++ l) ++ [b] :=
  push_spec [b] [b] (fun a ha => TokR.lit a b ha hb) (by simp [decode_lit b [] hb, decode]) h

/- One triple per writer operation: it keeps `GoodW`, says what it appends to `D`, and what it does to `cr`. -/

theorem flush_spec (w : W) : D (flush w) = D w := by
  unfold flush D
  simp only [List.append_nil]

theorem insertCRLF_spec (w : W) (h : GoodW w) :
    GoodW (insertCRLF w) ∧ D (insertCRLF w) = D w ++ [13, 10] ∧ (insertCRLF w).cr = w.cr := by
  obtain ⟨g, d⟩ := push_spec [13, 10] [13, 10]
    (fun a ha => by simpa using TokR.lit _ 10 (TokR.lit a 13 ha (by decide)) (by decide)) (by decide) h
  unfold insertCRLF flush GoodW D
  simp only [List.append_nil]
  exact ⟨g, d, trivial⟩

theorem insertSoft_spec (w : W) (h : GoodW w) :
    GoodW (insertSoftLineBreak w) ∧ D (insertSoftLineBreak w) = D w ∧ (insertSoftLineBreak w).cr = w.cr := by
  obtain ⟨g, d⟩ := push_spec [61, 13, 10] [] TokR.soft (by decide) h
  unfold insertSoftLineBreak insertCRLF flush GoodW D
  simp only [List.append_nil, List.append_assoc, List.cons_append, List.nil_append] at g d ⊢
  exact ⟨g, d, trivial⟩

theorem encode_spec (w : W) (b : UInt8) (h : GoodW w) :
    GoodW (encode w b) ∧ D (encode w b) = D w ++ [b] ∧ (encode w b).cr = w.cr := by
  unfold encode
  simp only []
  split
  · obtain ⟨g, d, c⟩ := insertSoft_spec w h
    obtain ⟨g2, d2⟩ := push_spec (enc3 b) [b] (fun a => TokR.esc a b) (decode_enc3_nil b) g
    exact ⟨g2, d ▸ d2, c⟩
  · obtain ⟨g2, d2⟩ := push_spec (enc3 b) [b] (fun a => TokR.esc a b) (decode_enc3_nil b) h
    exact ⟨g2, d2, rfl⟩

theorem checkLastByte_spec (w : W) (h : GoodW w) :
    GoodW (checkLastByte w) ∧ D (checkLastByte w) = D w ∧ (checkLastByte w).cr = w.cr := by
  unfold checkLastByte
  split
  · exact ⟨h, rfl, rfl⟩
  · rename_i b hl
    split
    · -- the line ends in a blank: it is taken back (`inv_ws`) and re-emitted escaped
      rename_i hws
      have hsplit : w.line = w.line.dropLast ++ [b] := by
        obtain ⟨ys, hy⟩ := List.getLast?_eq_some_iff.mp hl
        rw [hy, List.dropLast_concat]
      have hgood : GoodW { w with line := w.line.dropLast } :=
        TokR.inv_ws h (w.out ++ w.line.dropLast) b (by rw [List.append_assoc, ← hsplit]) hws
      have hb : b ≠ 61 := by
        rintro rfl
        cases hws
      obtain ⟨g, d, c⟩ := encode_spec { w with line := w.line.dropLast } b hgood
      refine ⟨g, ?_, c⟩
      rw [d]
      have := (push_lit b hb hgood).2
      unfold D
      rw [hsplit]
      simpa using this.symm
    · exact ⟨h, rfl, rfl⟩

theorem step_spec (w : W) (b : UInt8) (h : GoodW w) :
    GoodW (step w b) ∧ D (step w b) = D w ++ (emit w.cr b).1 ∧ (step w b).cr = (emit w.cr b).2 := by
  unfold step emit
  by_cases hlit : isLit b = true
  · simp only [hlit, if_true]
    unfold write1
    by_cases hnl : (b == 10 || b == 13) = true
    · simp only [hnl, if_true]
      by_cases hskip : (w.cr && b == 10) = true
      · simp only [hskip, if_true]
        exact ⟨h, by simp [D], trivial⟩
      · simp only [hskip, if_false, Bool.false_eq_true]
        have hw' : GoodW (if b == 13 then { w with cr := true } else w) ∧
            D (if b == 13 then { w with cr := true } else w) = D w := by
          split <;> exact ⟨h, rfl⟩
        obtain ⟨g1, d1, c1⟩ := checkLastByte_spec _ hw'.1
        obtain ⟨g2, d2, c2⟩ := insertCRLF_spec _ g1
        refine ⟨g2, by rw [d2, d1, hw'.2], ?_⟩
        rw [c2, c1]
        split <;> rfl
    · simp only [hnl, if_false, Bool.false_eq_true]
      have hb : b ≠ 61 := by
        rintro rfl
        cases hlit
      split
      · obtain ⟨g, d, _⟩ := insertSoft_spec w h
        obtain ⟨g2, d2⟩ := push_lit b hb g
        exact ⟨g2, d ▸ d2, trivial⟩
      · obtain ⟨g2, d2⟩ := push_lit b hb h
        exact ⟨g2, d2, trivial⟩
  · simp only [hlit, if_false, Bool.false_eq_true]
    exact encode_spec w b h

theorem fold_spec (xs : Bytes) (w : W) (h : GoodW w) :
    GoodW (xs.foldl step w) ∧ D (xs.foldl step w) = D w ++ canon w.cr xs := by
  induction xs generalizing w with
  | nil => exact ⟨h, by simp [canon]⟩
  | cons b rest ih =>
    obtain ⟨g, d, c⟩ := step_spec w b h
    obtain ⟨g2, d2⟩ := ih (step w b) g
    refine ⟨g2, ?_⟩
    simp only [List.foldl_cons]
    rw [d2, d, c]
    simp [canon, List.append_assoc]

theorem roundtrip (xs : Bytes) : decode (encodeBytes xs) = canon false xs := by
  obtain ⟨g, d⟩ := fold_spec xs ⟨[], [], false⟩ TokR.nil
  obtain ⟨_, d1, _⟩ := checkLastByte_spec _ g
  have d2 := (flush_spec _).trans (d1.trans d)
  simpa [D, flush, decode, encodeBytes, close] using d2

end GoMail.QP
