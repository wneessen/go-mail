import GoMailModel.Mime.Render
/-
  Refinement of the imperative multipart writer (a stack of open multipart.Writers, `startMP`,
  `newPart`, `stopMP`, the `if hasX` blocks of writeMsg) to the RFC 2046 serialisation of an entity
  TREE. The tree and its serialisation are the specification: a dozen lines that can be read
  against RFC 2046 §5.1.1; the theorem says the bytes the plan writes after the message header
  are exactly that serialisation, for every message shape.

  The proofs go through one relation on writer states, `Emits p q es`: from `p` to `q` the writer
  wrote the entities `es` into the current frame - as body parts of the innermost open multipart, or
  at the top level when none is open. It is closed under composition and folds; `writePart` and
  `addFile` emit one leaf; an `if hasX` block around what emits `es` emits one multipart with the
  children `es` (`Emits.layer`). The stages of writeMsg are then a term built from these
  (`content_emits`), for every stack and both settings of `rawPartHeaders`.
-/
namespace GoMail.Mime
open GoMail

/-- a MIME entity: a leaf with its header fields and (encoded) body, or a multipart -/
inductive Ent
  | leaf (hdr : HeaderMap) (body : Bytes)
  | multi (subtype boundary : Bytes) (children : List Ent)

def hdrLines (h : HeaderMap) : Bytes := (h.map (fun kv => kv.1 ++ [58, 32] ++ kv.2 ++ crlf)).flatten

/-- "--" boundary CRLF, preceded by the CRLF that belongs to the delimiter unless it is the first one -/
def delim (b : Bytes) (notFirst : Bool) : Bytes := (if notFirst then crlf else []) ++ [45, 45] ++ b ++ crlf
def closeDelim (b : Bytes) : Bytes := crlf ++ [45, 45] ++ b ++ [45, 45] ++ crlf
def multiHead (subtype bnd : Bytes) : Bytes :=
  sb "Content-Type: " ++ (sb "multipart/" ++ subtype ++ sb ";\r\n boundary=" ++ bnd) ++ crlf ++ crlf

mutual
/-- an entity as it stands behind a delimiter line (or behind the message header): header fields,
    empty line, content -/
def Ent.ser : Ent → Bytes
  | .leaf h body => hdrLines h ++ crlf ++ body
  | .multi st b cs => multiHead st b ++ serList b false cs ++ closeDelim b
/-- the body parts of a multipart, each behind its delimiter -/
def serList (b : Bytes) : Bool → List Ent → Bytes
  | _, [] => []
  | nf, c :: cs => delim b nf ++ c.ser ++ serList b true cs
end

/-- header lines as msgWriter.writeHeader writes them (folded at blanks), one field per entry -/
def foldedLines (h : HeaderMap) : Bytes := (h.map (fun kv => Fold.bufferString kv.1 [kv.2] ++ crlf)).flatten

/-- a leaf as it stands at the top level of a message: folded header fields, empty line, body -/
def Ent.serTop : Ent → Bytes
  | .leaf h body => foldedLines h ++ crlf ++ body
  | .multi st b cs => (Ent.multi st b cs).ser

def PW.out (p : PW) : Bytes := planBytes p.acts

theorem planBytes_append (a b : List WAct) : planBytes (a ++ b) = planBytes a ++ planBytes b := by
  simp [planBytes]

theorem serList_append (b : Bytes) (nf : Bool) (xs ys : List Ent) :
    serList b nf (xs ++ ys) = serList b nf xs ++ serList b (!xs.isEmpty || nf) ys := by
  induction xs generalizing nf with
  | nil => simp [serList]
  | cons x xs ih => simp [serList, ih, List.append_assoc]

/-- the leaf a nested body part becomes -/
def leafOfPart (s : MsgState) (part : Part) : Ent :=
  let charset := if part.charset.isEmpty then s.charset else part.charset
  let contentType := if part.smime then part.ctype else part.ctype ++ sb "; charset=" ++ charset
  let desc := if part.desc.isEmpty then [] else EncodedWord.wordEncode (encoderOf s.encoding) s.charset part.desc
  .leaf ((if part.desc.isEmpty then [] else [(hContentDesc, desc)]) ++ [(hCTE, part.enc), (hContentType, contentType)])
    (Body.encodeBody (cteOf part.enc) part.prod.content)

/-- the leaf a nested file (with its cached header map) becomes -/
def leafOfFile (f : FileM) : Ent :=
  .leaf f.header (Body.encodeBody (cteOf (if f.enc.isEmpty then encB64 else f.enc)) f.prod.content)

/-- the entity tree of a message: alternative around the body parts, related around that and the
    embeds, mixed around that and the attachments - each layer only if the message needs it -/
def contentTree (s : MsgState) (bM bR bA : Bytes) (embeds attachments : List FileM) : List Ent :=
  let parts := (s.parts.filter (fun x => !x.deleted && !x.smime)).map (leafOfPart s)
  let alt := if hasAlt s then [Ent.multi (sb "alternative") bA parts] else parts
  let rel := if hasRelated s then [Ent.multi (sb "related") bR (alt ++ embeds.map leafOfFile)] else alt ++ embeds.map leafOfFile
  if hasMixed s then [Ent.multi (sb "mixed") bM (rel ++ attachments.map leafOfFile)] else rel ++ attachments.map leafOfFile

/-- from `p` to `q` the writer appended actions whose bytes are `bs`, left the stack of open multiparts as `st`
    and kept `rawPartHeaders` -/
structure PW.Step (p q : PW) (bs : Bytes) (st : List (Bytes × Bool)) : Prop where
  acts : ∃ ys, q.acts = p.acts ++ ys ∧ planBytes ys = bs
  stack : q.stack = st
  raw : q.rawPartHeaders = p.rawPartHeaders

namespace PW.Step

theorem refl (p : PW) : p.Step p [] p.stack := ⟨⟨[], (List.append_nil _).symm, rfl⟩, rfl, rfl⟩

theorem trans {p q r : PW} {a b : Bytes} {st st' : List (Bytes × Bool)}
    (h1 : p.Step q a st) (h2 : q.Step r b st') : p.Step r (a ++ b) st' := by
  obtain ⟨ya, ea, rfl⟩ := h1.acts
  obtain ⟨yb, eb, rfl⟩ := h2.acts
  exact ⟨⟨ya ++ yb, by rw [eb, ea, List.append_assoc], planBytes_append ya yb⟩, h2.stack, h2.raw.trans h1.raw⟩

/-- `trans` when the second step leaves the stack as it found it -/
theorem keep {p q r : PW} {a b : Bytes} {st : List (Bytes × Bool)}
    (h1 : p.Step q a st) (h2 : q.Step r b q.stack) : p.Step r (a ++ b) st :=
  ⟨(h1.trans h2).acts, h2.stack.trans h1.stack, (h1.trans h2).raw⟩

theorem out {p q : PW} {bs : Bytes} {st : List (Bytes × Bool)} (h : p.Step q bs st) : q.out = p.out ++ bs := by
  obtain ⟨ys, e, rfl⟩ := h.acts
  unfold PW.out
  rw [e, planBytes_append]

theorem added {p q : PW} {bs : Bytes} {st : List (Bytes × Bool)} (h : p.Step q bs st) :
    planBytes (q.acts.drop p.acts.length) = bs := by
  obtain ⟨ys, e, rfl⟩ := h.acts
  rw [e, List.drop_left]

end PW.Step

theorem PW.top_of_nil {p : PW} (hs : p.stack = []) : (p.depth == 0) = true := by
  unfold PW.depth; rw [hs]; rfl

theorem PW.top_of_cons {p : PW} {x : Bytes × Bool} {rest : List (Bytes × Bool)} (hs : p.stack = x :: rest) :
    (p.depth == 0) = false := by
  unfold PW.depth; rw [hs]; rfl

theorem str_step (p : PW) (b : Bytes) : p.Step (p.str b) b p.stack :=
  ⟨⟨[.w none b], rfl, List.append_nil b⟩, rfl, rfl⟩

theorem body_step (p : PW) (enc : EncLabel) (prod : Producer) :
    p.Step (p.body enc prod) (Body.encodeBody (cteOf enc) prod.content) p.stack :=
  ⟨⟨[_], rfl, List.append_nil _⟩, rfl, rfl⟩

theorem newPart_step (p : PW) (pre : Option Bool) (h : HeaderMap) {b : Bytes} {l : Bool} {rest : List (Bytes × Bool)}
    (hs : p.stack = (b, l) :: rest) :
    p.Step (p.newPart pre h) (delim b l ++ hdrLines h ++ crlf) ((b, true) :: rest) := by
  unfold PW.newPart
  rw [hs]
  exact ⟨⟨[_], rfl, List.append_nil _⟩, rfl, rfl⟩

theorem stopMP_step (p : PW) {b : Bytes} {l : Bool} {rest : List (Bytes × Bool)} (hs : p.stack = (b, l) :: rest) :
    p.Step p.stopMP (closeDelim b) rest := by
  unfold PW.stopMP
  rw [hs]
  exact ⟨⟨[_], rfl, List.append_nil _⟩, rfl, rfl⟩

/-- the boundary in effect after startMP -/
def bnd (given fresh : Bytes) : Bytes := if given.isEmpty then fresh else if validBoundary given then given else fresh

theorem startMP_snd (p : PW) (mt given fresh : Bytes) : (p.startMP mt given fresh).2 = bnd given fresh := rfl

theorem valid_ne_nil {x : Bytes} (h : validBoundary x = true) : x.isEmpty = false := by
  cases x with
  | nil => cases h
  | cons a as => rfl

theorem bnd_of_valid {g : Bytes} (h : validBoundary g = true) (f : Bytes) : bnd g f = g := by
  rw [bnd, valid_ne_nil h, h]; rfl

theorem newPart_userBnd (p : PW) (pre : Option Bool) (h : HeaderMap) : (p.newPart pre h).userBnd = p.userBnd := by
  unfold PW.newPart; split <;> rfl

theorem startMP_userBnd (p : PW) (mt given fresh : Bytes) : (p.startMP mt given fresh).1.userBnd = p.userBnd := by
  show (if p.depth == 0 then ({ p with acts := _ } : PW) else p.newPart _ _).userBnd = _
  split
  · rfl
  · exact newPart_userBnd ..

theorem startMP_top (p : PW) (mt given fresh : Bytes) (hs : p.stack = []) :
    p.Step (p.startMP mt given fresh).1
      (sb "Content-Type: " ++ (sb "multipart/" ++ mt ++ sb ";\r\n boundary=" ++ bnd given fresh))
      [(bnd given fresh, false)] := by
  unfold PW.startMP
  simp only [PW.top_of_nil hs, if_true]
  exact ⟨⟨[_], rfl, List.append_nil _⟩, by rw [hs]; rfl, rfl⟩

/-- At depth 0 `startMP` writes the Content-Type field itself, not through `writeHeader`, whatever the
    multipart type and the boundary: one write, with the CRLF of the boundary parameter inside it. -/
theorem outermost_layer_write (mt given fresh : Bytes) (p : PW) (h : p.stack = []) :
    ∃ pre b, (p.startMP mt given fresh).1.acts =
      p.acts ++ [.w pre (sb "Content-Type: multipart/" ++ mt ++ sb ";" ++ crlf ++ sb " boundary=" ++ b)] := by
  refine ⟨if given.isEmpty then none else some (!validBoundary given), bnd given fresh, ?_⟩
  have h1 : sb "Content-Type: " ++ sb "multipart/" = sb "Content-Type: multipart/" := by
    rw [sb_ofList, sb_ofList, sb_ofList]
    decide +kernel
  have h2 : sb ";\r\n boundary=" = sb ";" ++ crlf ++ sb " boundary=" := by
    rw [sb_ofList, sb_ofList, sb_ofList]
    decide +kernel
  unfold PW.startMP bnd
  simp only [PW.top_of_nil h, if_true]
  rw [← h1, h2]
  simp only [List.append_assoc]

/-- the outermost multipart with the empty line that `openLayer` and the S/MIME wrapper add at depth 1 -/
theorem startMP_str_top (p : PW) (mt given fresh : Bytes) (hs : p.stack = []) :
    p.Step ((p.startMP mt given fresh).1.str (crlf ++ crlf)) (multiHead mt (bnd given fresh)) [(bnd given fresh, false)] := by
  simpa [multiHead, List.append_assoc] using (startMP_top p mt given fresh hs).keep (str_step _ (crlf ++ crlf))

/-- the head of a multipart is the one header field CreatePart writes for it, and the empty line -/
theorem multiHead_eq_hdrLines (mt b : Bytes) :
    multiHead mt b = hdrLines [(sb "Content-Type", sb "multipart/" ++ mt ++ sb ";\r\n boundary=" ++ b)] ++ crlf := by
  have hct : sb "Content-Type: " = sb "Content-Type" ++ [58, 32] := by
    rw [sb_ofList, sb_ofList]; decide +kernel
  simp [hdrLines, multiHead, hct, List.append_assoc]

theorem startMP_nested (p : PW) (mt given fresh : Bytes) {b : Bytes} {l : Bool} {rest : List (Bytes × Bool)}
    (hs : p.stack = (b, l) :: rest) :
    p.Step (p.startMP mt given fresh).1 (delim b l ++ multiHead mt (bnd given fresh))
      ((bnd given fresh, false) :: (b, true) :: rest) := by
  rw [multiHead_eq_hdrLines, ← List.append_assoc]
  unfold PW.startMP
  simp only [PW.top_of_cons hs, Bool.false_eq_true, if_false]
  have hn := newPart_step p (if given.isEmpty then none else some (!validBoundary given))
    [(sb "Content-Type", sb "multipart/" ++ mt ++ sb ";\r\n boundary=" ++ bnd given fresh)] hs
  exact ⟨hn.acts, congrArg _ hn.stack, hn.raw⟩

theorem startMP_depth (p : PW) (mt given fresh : Bytes) : (p.startMP mt given fresh).1.depth = p.depth + 1 := by
  unfold PW.depth
  cases hs : p.stack with
  | nil => rw [(startMP_top p mt given fresh hs).stack]; rfl
  | cons x rest => rw [(startMP_nested p mt given fresh (b := x.1) (l := x.2) hs).stack]; rfl

theorem markUser_step {s : MsgState} {p r : PW} {bs : Bytes} {st : List (Bytes × Bool)}
    (h : (markUser s p).Step r bs st) : p.Step r bs st :=
  ⟨markUser_acts s p ▸ h.acts, h.stack, markUser_raw s p ▸ h.raw⟩

/-- a header field as writePartHeader writes it where no multipart is open: as CreatePart would in the
    signing pre-render, else folded by writeHeader -/
def topLine : Bool → Bytes → Bytes → Bytes
  | true, k, v => k ++ [58, 32] ++ v ++ crlf
  | false, k, v => Fold.bufferString k [v] ++ crlf

def topLines (raw : Bool) (h : HeaderMap) : Bytes := (h.map (fun kv => topLine raw kv.1 kv.2)).flatten

theorem partHeader_step (p : PW) (k v : Bytes) :
    p.Step (p.partHeader k [v]) (topLine p.rawPartHeaders k v) p.stack := by
  unfold PW.partHeader
  cases p.rawPartHeaders with
  | true => exact str_step p _
  | false => exact ⟨⟨[_, _], rfl, congrArg _ (List.append_nil crlf)⟩, rfl, rfl⟩

theorem foldl_partHeader_step (h : HeaderMap) (p : PW) :
    p.Step (h.foldl (fun p kv => p.partHeader kv.1 [kv.2]) p) (topLines p.rawPartHeaders h) p.stack := by
  induction h generalizing p with
  | nil => exact .refl p
  | cons x xs ih =>
    have h1 := partHeader_step p x.1 x.2
    have h2 := ih (p.partHeader x.1 [x.2])
    rw [h1.raw, h1.stack] at h2
    exact h1.trans h2

/-- what the message header stage does to the writer: it writes outside the tree, so `q` differs from
    `p` in the actions written and the header line count only -/
structure PW.Wrote (p q : PW) : Prop where
  stack : q.stack = p.stack
  raw : q.rawPartHeaders = p.rawPartHeaders
  userBnd : q.userBnd = p.userBnd

theorem PW.Wrote.refl (p : PW) : p.Wrote p := ⟨rfl, rfl, rfl⟩

theorem PW.Wrote.trans {p q r : PW} (h1 : p.Wrote q) (h2 : q.Wrote r) : p.Wrote r :=
  ⟨h2.stack.trans h1.stack, h2.raw.trans h1.raw, h2.userBnd.trans h1.userBnd⟩

theorem header_wrote (p : PW) (c : Bool) (k : Bytes) (vs : List Bytes) : p.Wrote (p.header c k vs) := by
  unfold PW.header
  split
  · exact .refl p
  · exact ⟨rfl, rfl, rfl⟩

theorem foldl_wrote {α} (f : PW → α → PW) (hf : ∀ p x, PW.Wrote p (f p x)) (l : List α) (p : PW) :
    p.Wrote (l.foldl f p) := by
  induction l generalizing p with
  | nil => exact .refl p
  | cons x xs ih => exact (hf p x).trans (ih _)

theorem stageHeaders_wrote (s : MsgState) (p : PW) : p.Wrote (stageHeaders s p) := by
  unfold stageHeaders
  simp only []
  -- from the last written to the first: the address fields, From, the preformatted and the generic headers
  -- (`by exact`: elaborated at once, the three `rfl` would fix the fold function as `fun p _ => p`)
  refine .trans ?_ (foldl_wrote _ (fun p kn => ?_) _ _)
  · split
    · refine .trans ?_ (header_wrote ..)
      refine .trans ?_ (foldl_wrote _ (fun p kv => by exact ⟨rfl, rfl, rfl⟩) _ _)
      exact foldl_wrote _ (fun p kv => header_wrote ..) _ p
    · refine .trans ?_ (foldl_wrote _ (fun p kv => by exact ⟨rfl, rfl, rfl⟩) _ _)
      exact foldl_wrote _ (fun p kv => header_wrote ..) _ p
  · split
    · exact header_wrote ..
    · exact .refl _

/-- an entity as it stands where no multipart is open: a multipart as everywhere, a leaf with its header
    fields as `writePartHeader` writes them -/
def Ent.serAt (raw : Bool) : Ent → Bytes
  | .leaf h body => topLines raw h ++ crlf ++ body
  | .multi st b cs => (Ent.multi st b cs).ser

theorem serAt_false : Ent.serAt false = Ent.serTop := by
  funext e; cases e <;> rfl

theorem serAt_true : Ent.serAt true = Ent.ser := by
  funext e; cases e <;> rfl

/-- entities written one after the other: as body parts of the innermost open multipart, each behind its
    delimiter, or at the top level when none is open -/
def frame (raw : Bool) : List (Bytes × Bool) → List Ent → Bytes
  | [], es => (es.map (Ent.serAt raw)).flatten
  | (b, l) :: _, es => serList b l es

/-- the stack after that: the open multipart has a part unless nothing was written. With the flag in
    second place the disjunction computes as soon as `es` is `[]` or a cons. -/
def mark : List (Bytes × Bool) → List Ent → List (Bytes × Bool)
  | [], _ => []
  | (b, l) :: rest, es => (b, !es.isEmpty || l) :: rest

/-- `bs` as the beginning of an entity written now: behind a delimiter line if a multipart is open -/
def lead : List (Bytes × Bool) → Bytes → Bytes
  | [], bs => bs
  | (b, l) :: _, bs => delim b l ++ bs

theorem frame_append (raw : Bool) (st : List (Bytes × Bool)) (xs ys : List Ent) :
    frame raw st (xs ++ ys) = frame raw st xs ++ frame raw (mark st xs) ys := by
  cases st with
  | nil => simp [frame, mark]
  | cons x rest => exact serList_append x.1 x.2 xs ys

theorem mark_append (st : List (Bytes × Bool)) (xs ys : List Ent) : mark (mark st xs) ys = mark st (xs ++ ys) := by
  cases st with
  | nil => rfl
  | cons x rest => cases xs <;> simp [mark]

theorem mark_length (st : List (Bytes × Bool)) (es : List Ent) : (mark st es).length = st.length := by
  cases st <;> rfl

theorem frame_multi (raw : Bool) (st : List (Bytes × Bool)) (mt b : Bytes) (es : List Ent) :
    frame raw st [.multi mt b es] = lead st (multiHead mt b) ++ serList b false es ++ closeDelim b := by
  cases st with
  | nil => simp [frame, Ent.serAt, Ent.ser, lead]
  | cons x rest => simp [frame, serList, Ent.ser, lead, List.append_assoc]

/-- **From `p` to `q` the writer wrote the entities `es` into the current frame.** -/
def Emits (p q : PW) (es : List Ent) : Prop :=
  p.Step q (frame p.rawPartHeaders p.stack es) (mark p.stack es)

namespace Emits

theorem refl (p : PW) : Emits p p [] := by
  have h := PW.Step.refl p
  unfold Emits
  cases hs : p.stack with
  | nil => rw [hs] at h; exact h
  | cons x rest => obtain ⟨b, l⟩ := x; rw [hs] at h; exact h

theorem trans {p q r : PW} {xs ys : List Ent} (h1 : Emits p q xs) (h2 : Emits q r ys) : Emits p r (xs ++ ys) := by
  unfold Emits at *
  rw [h1.raw, h1.stack] at h2
  rw [frame_append, ← mark_append]
  exact h1.trans h2

theorem foldl {α} {f : PW → α → PW} {leaf : α → Ent} (hf : ∀ p x, Emits p (f p x) [leaf x]) (xs : List α) (p : PW) :
    Emits p (xs.foldl f p) (xs.map leaf) := by
  induction xs generalizing p with
  | nil => exact .refl p
  | cons x xs ih => exact (hf p x).trans (ih (f p x))

/-- a multipart opened in the frame of `p`, filled with `es` and closed is one entity of that frame -/
theorem multi {p o r : PW} {mt b : Bytes} {es : List Ent}
    (hopen : p.Step o (lead p.stack (multiHead mt b)) ((b, false) :: mark p.stack [.multi mt b es]))
    (h : Emits o r es) : Emits p r.stopMP [.multi mt b es] := by
  unfold Emits at *
  rw [hopen.raw, hopen.stack] at h
  rw [frame_multi]
  exact (hopen.trans h).trans (stopMP_step r h.stack)

end Emits

/-- What `writePart` and `addFile` do with a header map, an encoding and a producer. `hq` is a hypothesis
    so that `writePart`, which writes its two or three fields one by one, can prove it by rewriting: as a
    unification problem it is dear. -/
theorem leaf_emits (p : PW) (h : HeaderMap) (enc : EncLabel) (prod : Producer) (q : PW)
    (hq : q = h.foldl (fun p kv => p.partHeader kv.1 [kv.2]) p) :
    Emits p ((if p.depth == 0 then q.str crlf else p.newPart none h).body enc prod)
      [.leaf h (Body.encodeBody (cteOf enc) prod.content)] := by
  subst hq
  unfold Emits
  cases hs : p.stack with
  | nil =>
    rw [PW.top_of_nil hs, if_pos rfl]
    have := ((foldl_partHeader_step h p).keep (str_step _ crlf)).keep (body_step _ enc prod)
    rw [hs] at this
    simpa [frame, mark, Ent.serAt] using this
  | cons x rest =>
    obtain ⟨b, l⟩ := x
    rw [PW.top_of_cons hs, if_neg Bool.false_ne_true]
    have := (newPart_step p none h hs).keep (body_step _ enc prod)
    simpa [frame, mark, serList, Ent.ser, List.append_assoc] using this

theorem addFile_emits (p : PW) (f : FileM) : Emits p (p.addFile f) [leafOfFile f] :=
  leaf_emits p f.header _ f.prod _ rfl

theorem writePart_emits (p : PW) (s : MsgState) (part : Part) : Emits p (p.writePart s part) [leafOfPart s part] := by
  unfold PW.writePart leafOfPart
  cases part.desc.isEmpty <;> exact leaf_emits p _ part.enc part.prod _ (by simp)

/-- `openLayer` is the `hopen` of `Emits.multi`. `mark p.stack [e]` is the same stack for every `e` (one entity
    written); `e` is a parameter so that the statement unifies with `Emits.multi` for the entity at hand. -/
theorem openLayer_step (s : MsgState) (p : PW) (mt cached fresh : Bytes) (e : Ent) :
    p.Step (openLayer s p mt cached fresh).1 (lead p.stack (multiHead mt (openLayer s p mt cached fresh).2))
      (((openLayer s p mt cached fresh).2, false) :: mark p.stack [e]) := by
  unfold openLayer
  simp only []
  apply markUser_step
  have hq := markUser_stack s p
  generalize markUser s p = q at hq ⊢
  generalize givenBoundary s p cached = g
  rw [← hq]
  cases hs : q.stack with
  | nil =>
    have hd : ((q.startMP mt g fresh).1.depth == 1) = true := by
      unfold PW.depth; rw [(startMP_top q mt g fresh hs).stack]; rfl
    rw [hd, if_pos rfl]
    exact startMP_str_top q mt g fresh hs
  | cons x rest =>
    obtain ⟨b, l⟩ := x
    have h := startMP_nested q mt g fresh hs
    have hd : ((q.startMP mt g fresh).1.depth == 1) = false := by
      unfold PW.depth; rw [h.stack]; rfl
    rw [hd, if_neg Bool.false_ne_true]
    exact h

/-- one `if msg.hasX()` block of `stageOpen` with the matching `stopMP` of `stageContent`, around
    what is written in between. The statement has the shape of the `let r := if hasX s then openLayer ..
    else (p, cached)` lines of `stageOpen` and the `if hasX s then p.stopMP else p` lines of `stageContent`:
    `content_emits` is a term that unifies against their unfolding, and a change to either side shows
    there as a large mismatch. -/
theorem Emits.layer (c : Bool) {s : MsgState} {p r : PW} {mt cached fresh : Bytes} {es : List Ent}
    (h : Emits (if c then openLayer s p mt cached fresh else (p, cached)).1 r es) :
    Emits p (if c then r.stopMP else r)
      (if c then [.multi mt (if c then openLayer s p mt cached fresh else (p, cached)).2 es] else es) := by
  cases c
  · exact h
  · exact .multi (openLayer_step s p mt cached fresh _) h

/-- **Refinement.** From any writer state - no multipart open, or inside one; signing pre-render or
    not - the layer-opening stage followed by the content stage of writeMsg writes the message tree into
    the current frame, with the boundaries the render leaves in the cache. -/
theorem content_emits (s : MsgState) (e : Entropy) (p : PW) (embeds attachments : List FileM) :
    Emits p (stageContent s false (stageOpen s e false p).1 embeds attachments)
      (contentTree s (stageOpen s e false p).2.bMixed (stageOpen s e false p).2.bRelated (stageOpen s e false p).2.bAlt
        embeds attachments) :=
  .layer (hasMixed s) (.trans (.layer (hasRelated s) (.trans (.layer (hasAlt s)
    (.foldl (fun p x => writePart_emits p s x) _ _)) (.foldl addFile_emits embeds _))) (.foldl addFile_emits attachments _))

theorem stageOpen_decisions (s : MsgState) (e : Entropy) (p : PW) :
    hasAlt (stageOpen s e false p).2 = hasAlt s ∧ hasRelated (stageOpen s e false p).2 = hasRelated s ∧
    hasMixed (stageOpen s e false p).2 = hasMixed s := ⟨rfl, rfl, rfl⟩

/-- **Every render without the S/MIME wrapper**, the signing pre-render included: the message header
    fields, then the message tree at the top level - a multipart as `Ent.ser` has it, a leaf with its
    header fields folded by writeHeader (in the signing pre-render: as CreatePart writes them). -/
theorem writeMsg_refines_all (s : MsgState) (e : Entropy) (signing : Bool) :
    planBytes (writeMsg s e false signing).1.acts = (stageHeaders (defaultHeaders s e) { rawPartHeaders := signing }).out ++
      ((contentTree (defaultHeaders s e) (writeMsg s e false signing).2.bMixed (writeMsg s e false signing).2.bRelated
        (writeMsg s e false signing).2.bAlt (writeMsg s e false signing).2.embeds
        (writeMsg s e false signing).2.attachments).map (Ent.serAt signing)).flatten := by
  have h := (content_emits (defaultHeaders s e) e (stageHeaders (defaultHeaders s e) { rawPartHeaders := signing })
    (writeMsg s e false signing).2.embeds (writeMsg s e false signing).2.attachments).out
  rw [(stageHeaders_wrote _ _).raw, (stageHeaders_wrote _ _).stack] at h
  exact h

/-- no deleted parts, no signature part: the three decisions read the plain counts -/
def Plain (s : MsgState) : Prop := ∀ p ∈ s.parts, p.deleted = false ∧ p.smime = false

theorem plain_counts (s : MsgState) (h : Plain s) :
    countBodyParts s = s.parts.length ∧ hasBodyParts s = decide (s.parts.length > 0) := by
  have hf : s.parts.filter (fun x => !x.deleted && !x.smime) = s.parts := by
    apply List.filter_eq_self.mpr
    intro p hp; simp [(h p hp).1, (h p hp).2]
  refine ⟨by unfold countBodyParts; rw [hf], ?_⟩
  unfold hasBodyParts
  cases hps : s.parts with
  | nil => simp
  | cons p ps =>
    have := (h p (by simp [hps])).2
    simp [this]

mutual
/-- the leaves of an entity, in document order -/
def Ent.leaves : Ent → List Ent
  | .leaf h b => [.leaf h b]
  | .multi _ _ cs => leavesL cs
def leavesL : List Ent → List Ent
  | [] => []
  | c :: cs => c.leaves ++ leavesL cs
end

theorem leavesL_append (a b : List Ent) : leavesL (a ++ b) = leavesL a ++ leavesL b := by
  induction a with
  | nil => simp [leavesL]
  | cons x xs ih => simp [leavesL, ih, List.append_assoc]

theorem leavesL_map {α} (f : α → Ent) (hf : ∀ x, (f x).leaves = [f x]) (xs : List α) : leavesL (xs.map f) = xs.map f := by
  induction xs with
  | nil => rfl
  | cons x xs ih => simp [leavesL, hf, ih]

theorem leavesL_layer (c : Bool) (mt b : Bytes) (es : List Ent) :
    leavesL (if c then [.multi mt b es] else es) = leavesL es := by
  cases c <;> simp [leavesL, Ent.leaves]

/-! ### the writer as an abstract machine over (bytes written, stack of open multiparts)

  An executable reading of `startMP` / `newPart` / `stopMP` on their own. The refinement above does not go
  through it: `.lf` is a leaf by `newPart`, which on the empty stack writes nothing, while `writePart`
  and `addFile` write the leaf at the top level there. -/

abbrev View := Bytes × List (Bytes × Bool)

inductive Op
  | opn (subtype bnd : Bytes)
  | lf (e : Ent)
  | cls

def tstep (v : View) : Op → View
  | .opn st b =>
    match v.2 with
    | [] => (v.1 ++ multiHead st b, [(b, false)])
    | (b0, l0) :: rest => (v.1 ++ delim b0 l0 ++ multiHead st b, (b, false) :: (b0, true) :: rest)
  | .lf e =>
    match v.2 with
    | [] => v
    | (b0, l0) :: rest => (v.1 ++ delim b0 l0 ++ e.ser, (b0, true) :: rest)
  | .cls =>
    match v.2 with
    | [] => v
    | (b0, _) :: rest => (v.1 ++ closeDelim b0, rest)

def trun (ops : List Op) (v : View) : View := ops.foldl tstep v

theorem trun_nil (v : View) : trun [] v = v := rfl
theorem trun_cons (o : Op) (os : List Op) (v : View) : trun (o :: os) v = trun os (tstep v o) := rfl

theorem trun_append (a b : List Op) (v : View) : trun (a ++ b) v = trun b (trun a v) := by
  simp [trun, List.foldl_append]

theorem tstep_lf_nonempty (v : View) (e : Ent) (h : v.2 ≠ []) : (tstep v (.lf e)).2 ≠ [] := by
  unfold tstep
  cases hv : v.2 with
  | nil => exact absurd hv h
  | cons x rest => obtain ⟨b, l⟩ := x; simp

theorem trun_leaves (es : List Ent) (out : Bytes) (b : Bytes) (l : Bool) (rest : List (Bytes × Bool)) :
    trun (es.map Op.lf) (out, (b, l) :: rest) = (out ++ serList b l es, (b, l || !es.isEmpty) :: rest) := by
  induction es generalizing out l with
  | nil => simp [trun, serList]
  | cons e es ih =>
    simp only [List.map_cons, trun_cons, tstep]
    rw [ih]
    simp [serList, List.append_assoc]

end GoMail.Mime
