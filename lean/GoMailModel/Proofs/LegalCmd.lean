import GoMailModel.Smtp.Judge
import GoMailModel.Proofs.Exchange
/-
  Session legality, the command level: the invariant `JI` relating the judge's reading of the trace to
  the client's state, kept by one command that the judge accepts (`ji_cmd`, `sess_cmd`); commands that
  do not belong to a mail transaction leave an idle transaction idle; EHLO, HELO and hello().
-/
namespace GoMail.Smtp
open GoMail

theorem judge_snoc (t : List Ev) (e : Ev) : judge (t ++ [e]) = (judge t).step e := by
  simp [judge, List.foldl_append]

theorem judge_ev (c : Conn) (e : Ev) : judge (c.ev e).trace = (judge c.trace).step e := judge_snoc _ _

/-- the verb-specific part of `J.cmdOk` -/
def J.vOk (j : J) : Verb → Bool
  | .ehlo | .helo | .rset | .noop | .quit | .authStep | .authAbort => true
  | .mail => j.hello && j.tx == .idle
  | .rcpt => j.tx == .mail || j.tx == .rcpt
  | .data => j.tx == .rcpt && j.accepted > 0 && j.rejected == 0
  | .starttls | .auth => j.tx == .idle
  | .greeting | .eod | .handshake | .other => false

theorem cmdOk_eq (j : J) (v : Verb) : j.cmdOk v = (!j.closed && j.pending.isNone && j.greeted && j.vOk v) := by
  cases v <;> rfl

/-- what holds between any two operations of the client -/
structure JI (c : Conn) : Prop where
  nbad : (judge c.trace).bad = false
  stop : (judge c.trace).stopped = !c.cliOpen
  ready : live c → (judge c.trace).greeted = true ∧ (judge c.trace).pending = none ∧ (judge c.trace).closed = false

/-- once hello() has run and succeeded, the judge has seen an EHLO or HELO accepted -/
def HelloRel (c : Conn) : Prop := c.didHello = true → c.helloErr = none → (judge c.trace).hello = true

theorem onReply_facts (j : J) (code : Nat) :
    (j.onReply code).bad = j.bad ∧ (j.onReply code).stopped = j.stopped ∧ (j.onReply code).pending = none ∧
    (j.hello = true → (j.onReply code).hello = true) ∧
    (j.pending ≠ some .greeting → (j.onReply code).greeted = j.greeted) ∧
    (j.onReply code).closed = (j.closed || (j.pending == some .quit && code == 221)) := by
  unfold J.onReply
  repeat' split
  all_goals simp_all

theorem onReply_bad (j : J) (code : Nat) : (j.onReply code).bad = j.bad := (onReply_facts j code).1
theorem onReply_stopped (j : J) (code : Nat) : (j.onReply code).stopped = j.stopped := (onReply_facts j code).2.1
theorem onReply_pending (j : J) (code : Nat) : (j.onReply code).pending = none := (onReply_facts j code).2.2.1
theorem onReply_hello (j : J) (code : Nat) (h : j.hello = true) : (j.onReply code).hello = true :=
  (onReply_facts j code).2.2.2.1 h
theorem onReply_greeted (j : J) (code : Nat) (h : j.pending ≠ some .greeting) : (j.onReply code).greeted = j.greeted :=
  (onReply_facts j code).2.2.2.2.1 h
theorem onReply_closed (j : J) (code : Nat) :
    (j.onReply code).closed = (j.closed || (j.pending == some .quit && code == 221)) :=
  (onReply_facts j code).2.2.2.2.2

theorem onReply_tx (j : J) (code : Nat) (h : ∀ v, j.pending = some v → v ≠ .mail ∧ v ≠ .rcpt ∧ v ≠ .data) :
    (j.onReply code).tx = j.tx ∨ (j.onReply code).tx = .idle := by
  have hm : j.pending ≠ some .mail := fun hp => (h _ hp).1 rfl
  have hr : j.pending ≠ some .rcpt := fun hp => (h _ hp).2.1 rfl
  have hd : j.pending ≠ some .data := fun hp => (h _ hp).2.2 rfl
  unfold J.onReply
  split
  -- by the outstanding command: `tx` stays, is set to `idle`, the command is excluded, or the code decides
  all_goals first
    | exact .inl rfl
    | exact .inr rfl
    | contradiction
    | (split <;> first | exact .inl rfl | exact .inr rfl)

/-- the judge's step on a command event when it has not stopped (`step_cmd`) -/
def J.sent (j : J) (v : Verb) : J := { j with bad := j.bad || !j.cmdOk v, pending := some v }

theorem step_cmd (j : J) (v : Verb) (l : Bytes) (h : j.stopped = false) : j.step (.cmd v l) = j.sent v := by
  simp [J.step, h, J.sent]
theorem step_reply (j : J) (code : Nat) (h : j.stopped = false) : j.step (.reply code) = j.onReply code := by
  simp [J.step, h]
theorem step_garbage (j : J) (h : j.stopped = false) : j.step .garbage = j.onReply 0 := by
  simp [J.step, h]
theorem step_stall (j : J) (a : Bool) : j.step (.stall a) = j := by
  simp [J.step]

theorem bad_mono (j : J) (e : Ev) (h : j.bad = true) : (j.step e).bad = true := by
  unfold J.step
  split
  · exact h
  · cases e <;> simp only [] <;> first
      | exact h
      | (rw [onReply_bad]; exact h)
      | (split <;> first | exact h | (simp [h]; done))
      | (simp [h]; done)

theorem foldl_bad (b : List Ev) (j : J) (h : (b.foldl J.step j).bad = false) : j.bad = false := by
  induction b generalizing j with
  | nil => exact h
  | cons e rest ih =>
    have h1 := ih (j.step e) h
    cases hb : j.bad with
    | false => rfl
    | true => rw [bad_mono _ e hb] at h1; cases h1

theorem judge_bad_prefix (a b : List Ev) (h : (judge (a ++ b)).bad = false) : (judge a).bad = false := by
  unfold judge at h
  rw [List.foldl_append] at h
  exact foldl_bad b _ h

theorem cmd_dead_judge (c : Conn) (v : Verb) (line : Bytes) (n : Nat) (h : ¬ live c) :
    judge (c.cmd v line n).1.trace = judge c.trace := by
  rcases (cmd_dead c v line n h).1 with ht | ⟨a, ht⟩
  · rw [ht]
  · rw [ht, judge_snoc, step_stall]

theorem ji_not_stopped (c : Conn) (h : JI c) (hl : live c) : (judge c.trace).stopped = false := by
  rw [h.stop, hl.1]; rfl

/-- `SrvDid` as the judge reads it: `j` before the server's turn, `j'` after it -/
inductive JudgeRead (j : J) (n : Nat) (v : Verb) (r : Except Err (Nat × Bytes)) (j' : J) (gone silent : Bool) : Prop
  | reply (code : Nat) (text : Bytes) :
      r = (if codeMatches n code then .ok (code, text) else .error (.reply code text)) →
      j' = j.onReply code → gone = (v == .quit && code == 221) → JudgeRead j n v r j' gone silent
  | garbage : r = .error .proto → j' = j.onReply 0 → gone = false → silent = false → JudgeRead j n v r j' gone silent
  | drop : r = .error .eof → j' = { j with closed := true, pending := none } → gone = true → JudgeRead j n v r j' gone silent
  | stall : (r = .error .timeout ∨ r = .error .blocked) → j' = j → silent = true → JudgeRead j n v r j' gone silent

theorem SrvDid.judge {t t' : List Ev} {n : Nat} {v : Verb} {r : Except Err (Nat × Bytes)} {gone silent : Bool}
    (d : SrvDid t n v r t' gone silent) (hs : (judge t).stopped = false) :
    JudgeRead (judge t) n v r (judge t') gone silent := by
  cases d with
  | reply code text h1 h2 h3 => exact .reply code text h1 (by rw [h2, judge_snoc, step_reply _ _ hs]) h3
  | garbage h1 h2 h3 h4 => exact .garbage h1 (by rw [h2, judge_snoc, step_garbage _ hs]) h3 h4
  | drop h1 h2 h3 => exact .drop h1 (by rw [h2, judge_snoc]; simp [J.step, hs]) h3
  | stall a h1 h2 h3 => exact .stall h1 (by rw [h2, judge_snoc, step_stall]) h3

theorem cmd_judge_live (c : Conn) (v : Verb) (line : Bytes) (n : Nat) (h : JI c) (hl : live c) :
    JudgeRead ((judge c.trace).sent v) n v (c.cmd v line n).2 (judge (c.cmd v line n).1.trace)
      (c.cmd v line n).1.srvGone (c.cmd v line n).1.srvSilent := by
  have hs := ji_not_stopped c h hl
  have hsent : judge (c.ev (.cmd v line)).trace = (judge c.trace).sent v := by rw [judge_ev, step_cmd _ _ _ hs]
  exact hsent ▸ (cmd_trace_live c v line n hl).judge (hsent ▸ hs)

theorem sent_fields (j : J) (v : Verb) :
    (j.sent v).stopped = j.stopped ∧ (j.sent v).hello = j.hello ∧ (j.sent v).greeted = j.greeted ∧
    (j.sent v).closed = j.closed ∧ (j.sent v).tx = j.tx ∧ (j.sent v).pending = some v ∧
    (j.sent v).accepted = j.accepted ∧ (j.sent v).rejected = j.rejected := ⟨rfl, rfl, rfl, rfl, rfl, rfl, rfl, rfl⟩

theorem ji_cmd (c : Conn) (v : Verb) (line : Bytes) (n : Nat) (h : JI c)
    (hv : live c → (judge c.trace).vOk v = true) : JI (c.cmd v line n).1 := by
  by_cases hl : live c
  · have cases := cmd_judge_live c v line n h hl
    have f := Frame.of_cmd c v line n
    have hs := ji_not_stopped c h hl
    obtain ⟨rg, rp, rc⟩ := h.ready hl
    have hok : (judge c.trace).cmdOk v = true := by
      rw [cmdOk_eq, rc, rp, rg, hv hl]; rfl
    have hbad : ((judge c.trace).sent v).bad = false := by simp [J.sent, h.nbad, hok]
    have hvg : v ≠ .greeting := by
      intro e; subst e; have := hv hl; simp [J.vOk] at this
    have hpg : ((judge c.trace).sent v).pending ≠ some .greeting := by
      simp [J.sent]; exact hvg
    rcases cases with ⟨code, text, _, hj, hg⟩ | ⟨_, hj, hg, hsil⟩ | ⟨_, hj, hg⟩ | ⟨_, hj, hsil⟩
    · refine ⟨by rw [hj, onReply_bad]; exact hbad, by rw [hj, onReply_stopped, f.1]; exact h.stop, ?_⟩
      intro hl'
      refine ⟨by rw [hj, onReply_greeted _ _ hpg]; exact rg, by rw [hj, onReply_pending], ?_⟩
      rw [hj, onReply_closed]
      have : (c.cmd v line n).1.srvGone = false := hl'.2.1
      rw [hg] at this
      simp [J.sent, rc, this]
    · refine ⟨by rw [hj, onReply_bad]; exact hbad, by rw [hj, onReply_stopped, f.1]; exact h.stop, ?_⟩
      intro _
      refine ⟨by rw [hj, onReply_greeted _ _ hpg]; exact rg, by rw [hj, onReply_pending], ?_⟩
      rw [hj, onReply_closed]; simp [J.sent, rc]
    · refine ⟨by rw [hj]; exact hbad, by rw [hj, f.1]; exact h.stop, ?_⟩
      intro hl'; have := hl'.2.1; rw [hg] at this; cases this
    · refine ⟨by rw [hj]; exact hbad, by rw [hj, f.1]; exact h.stop, ?_⟩
      intro hl'; have := hl'.2.2; rw [hsil] at this; cases this
  · have hj := cmd_dead_judge c v line n hl
    have hnl := (cmd_dead c v line n hl).2.1
    exact ⟨by rw [hj]; exact h.nbad, by rw [hj, (Frame.of_cmd c v line n).1]; exact h.stop, fun hl' => absurd hl' hnl⟩

theorem hello_mono_cmd (c : Conn) (v : Verb) (line : Bytes) (n : Nat) (h : JI c)
    (hh : (judge c.trace).hello = true) : (judge (c.cmd v line n).1.trace).hello = true := by
  by_cases hl : live c
  · rcases cmd_judge_live c v line n h hl with ⟨code, text, _, hj, _⟩ | ⟨_, hj, _, _⟩ | ⟨_, hj, _⟩ | ⟨_, hj, _⟩
    · rw [hj]; exact onReply_hello _ _ hh
    · rw [hj]; exact onReply_hello _ _ hh
    · rw [hj]; exact hh
    · rw [hj]; exact hh
  · rw [cmd_dead_judge c v line n hl]; exact hh

/-- no transaction is open (as far as a live server is concerned) -/
def Idle (c : Conn) : Prop := live c → (judge c.trace).tx = .idle

theorem live_of_eq {c c' : Conn} (ho : c'.cliOpen = c.cliOpen) (hg : c'.srvGone = c.srvGone) (hs : c'.srvSilent = c.srvSilent) :
    live c' ↔ live c := by unfold live; rw [ho, hg, hs]

theorem ji_of_eq (c c' : Conn) (h : JI c) (ht : c'.trace = c.trace) (ho : c'.cliOpen = c.cliOpen := by rfl)
    (hg : c'.srvGone = c.srvGone := by rfl) (hs : c'.srvSilent = c.srvSilent := by rfl) : JI c' :=
  ⟨by rw [ht]; exact h.nbad, by rw [ht, ho]; exact h.stop, fun hl => by rw [ht]; exact h.ready ((live_of_eq ho hg hs).mp hl)⟩

theorem idle_of_eq (c c' : Conn) (h : Idle c) (ht : c'.trace = c.trace) (ho : c'.cliOpen = c.cliOpen := by rfl)
    (hg : c'.srvGone = c.srvGone := by rfl) (hs : c'.srvSilent = c.srvSilent := by rfl) : Idle c' :=
  fun hl => by rw [ht]; exact h ((live_of_eq ho hg hs).mp hl)

theorem cmd_ok (c : Conn) (v : Verb) (line : Bytes) (n code : Nat) (text : Bytes) (h : JI c)
    (hr : (c.cmd v line n).2 = .ok (code, text)) :
    live c ∧ codeMatches n code = true ∧ judge (c.cmd v line n).1.trace = ((judge c.trace).sent v).onReply code := by
  by_cases hl : live c
  · rcases cmd_judge_live c v line n h hl with ⟨code', text', hr', hj, _⟩ | ⟨hr', _⟩ | ⟨hr', _⟩ | ⟨hr', _⟩
    · rw [hr] at hr'
      by_cases hm : codeMatches n code' = true
      · simp only [hm, if_true] at hr'
        cases hr'
        exact ⟨hl, hm, hj⟩
      · simp only [hm] at hr'; cases hr'
    · rw [hr] at hr'; cases hr'
    · rw [hr] at hr'; cases hr'
    · rw [hr] at hr'; rcases hr' with h1 | h1 <;> cases h1
  · obtain ⟨_, _, e, he⟩ := cmd_dead c v line n hl
    rw [hr] at he; cases he

/-- a three-digit expectation is met by that code only -/
theorem cmd_ok_exact (c : Conn) (v : Verb) (line : Bytes) (n code : Nat) (text : Bytes) (h : JI c) (hn : 100 ≤ n)
    (hr : (c.cmd v line n).2 = .ok (code, text)) :
    judge (c.cmd v line n).1.trace = ((judge c.trace).sent v).onReply n := by
  obtain ⟨_, hcm, hj⟩ := cmd_ok c v line n code text h hr
  unfold codeMatches at hcm
  rw [if_neg (by simp; omega), if_neg (by omega), if_neg (by omega)] at hcm
  rw [hj, beq_iff_eq.mp hcm]

/-- if somebody is there after a command, somebody was there before it and the judge has read an answer
    (garbage counts as the code 0) -/
theorem cmd_live_after (c : Conn) (v : Verb) (line : Bytes) (n : Nat) (h : JI c) (hl' : live (c.cmd v line n).1) :
    live c ∧ ∃ code, judge (c.cmd v line n).1.trace = ((judge c.trace).sent v).onReply code := by
  by_cases hl : live c
  · refine ⟨hl, ?_⟩
    rcases cmd_judge_live c v line n h hl with ⟨code, _, _, hj, _⟩ | ⟨_, hj, _, _⟩ | ⟨_, _, hg⟩ | ⟨_, _, hs⟩
    · exact ⟨code, hj⟩
    · exact ⟨0, hj⟩
    · rw [hl'.2.1] at hg; cases hg
    · rw [hl'.2.2] at hs; cases hs
  · exact absurd hl' (cmd_dead c v line n hl).2.1

theorem idle_cmd (c : Conn) (v : Verb) (line : Bytes) (n : Nat) (h : JI c) (hi : Idle c)
    (hv : v ≠ .mail ∧ v ≠ .rcpt ∧ v ≠ .data) : Idle (c.cmd v line n).1 := by
  intro hl'
  obtain ⟨hl, code, hj⟩ := cmd_live_after c v line n h hl'
  rw [hj]
  exact (onReply_tx _ code (fun _ hp => by cases hp; exact hv)).elim (fun e => e.trans (hi hl)) id

/-- the bundle that every "neutral" operation preserves -/
structure Sess (c : Conn) : Prop where
  ji : JI c
  hello : HelloRel c

theorem hellorel_of_eq (c c' : Conn) (h : HelloRel c) (ht : c'.trace = c.trace)
    (hd : c'.didHello = c.didHello := by rfl) (he : c'.helloErr = c.helloErr := by rfl) : HelloRel c' :=
  fun a b => by rw [ht]; rw [hd] at a; rw [he] at b; exact h a b

theorem sess_cmd (c : Conn) (v : Verb) (line : Bytes) (n : Nat) (h : Sess c)
    (hv : live c → (judge c.trace).vOk v = true) : Sess (c.cmd v line n).1 := by
  refine ⟨ji_cmd c v line n h.ji hv, ?_⟩
  have f : Frame c (c.cmd v line n).1 := Frame.of_cmd _ _ _ _
  intro a b
  rw [f.2.1] at a; rw [f.2.2.1] at b
  exact hello_mono_cmd c v line n h.ji (h.hello a b)

theorem greet_facts (c : Conn) (v : Verb) (line : Bytes) (hv : v = .ehlo ∨ v = .helo) (h : JI c) :
    JI (c.cmd v line 250).1 ∧ (Idle c → Idle (c.cmd v line 250).1) ∧ Frame c (c.cmd v line 250).1 ∧
    ((judge c.trace).hello = true → (judge (c.cmd v line 250).1.trace).hello = true) ∧
    (∀ r, (c.cmd v line 250).2 = .ok r → (judge (c.cmd v line 250).1.trace).hello = true) := by
  have hf : Frame c (c.cmd v line 250).1 := Frame.of_cmd _ _ _ _
  refine ⟨ji_cmd c v line 250 h (fun _ => by rcases hv with rfl | rfl <;> rfl),
    fun hi => idle_cmd c v line 250 h hi (by rcases hv with rfl | rfl <;> decide), hf,
    hello_mono_cmd c v line 250 h, ?_⟩
  rintro ⟨code, text⟩ hr
  rw [cmd_ok_exact c v line 250 code text h (by decide) hr]
  rcases hv with rfl | rfl <;> simp [J.onReply, J.sent, ok2]

theorem ehlo_facts (c : Conn) (h : JI c) :
    JI c.ehlo.1 ∧ (Idle c → Idle c.ehlo.1) ∧ c.ehlo.1.didHello = c.didHello ∧ c.ehlo.1.helloErr = c.helloErr ∧
    ((judge c.trace).hello = true → (judge c.ehlo.1.trace).hello = true) ∧
    (c.ehlo.2 = none → (judge c.ehlo.1.trace).hello = true) := by
  unfold Conn.ehlo
  match c.cmd .ehlo (sb "EHLO " ++ c.localName) 250, greet_facts c .ehlo (sb "EHLO " ++ c.localName) (.inl rfl) h with
  | (c1, .error e), ⟨hj, hid, hf, hm, _⟩ => exact ⟨hj, hid, hf.2.1, hf.2.2.1, hm, fun x => (by cases x)⟩
  | (c1, .ok r), ⟨hj, hid, hf, _, hok⟩ =>
    dsimp only
    refine ⟨?_, ?_, ?_, ?_, fun _ => ?_, fun _ => ?_⟩
    · split <;> exact ji_of_eq c1 _ hj rfl
    · intro hi; split <;> exact idle_of_eq c1 _ (hid hi) rfl
    · split <;> exact hf.2.1
    · split <;> exact hf.2.2.1
    · split <;> exact hok r rfl
    · split <;> exact hok r rfl

theorem helo_facts (c : Conn) (h : JI c) :
    JI c.helo.1 ∧ (Idle c → Idle c.helo.1) ∧ (c.helo.2 = none → (judge c.helo.1.trace).hello = true) := by
  unfold Conn.helo
  dsimp only
  match Conn.cmd { c with ext := none } .helo (sb "HELO " ++ c.localName) 250,
      greet_facts { c with ext := none } .helo (sb "HELO " ++ c.localName) (.inr rfl) (ji_of_eq c _ h rfl) with
  | (c1, .error e), ⟨hj, hid, _⟩ => exact ⟨hj, fun hi => hid (idle_of_eq c _ hi rfl), fun x => (by cases x)⟩
  | (c1, .ok r), ⟨hj, hid, _, _, hok⟩ => exact ⟨hj, fun hi => hid (idle_of_eq c _ hi rfl), fun _ => hok r rfl⟩

theorem hello_facts (c : Conn) (h : Sess c) :
    Sess c.hello.1 ∧ (Idle c → Idle c.hello.1) ∧ (c.hello.2 = none → (judge c.hello.1.trace).hello = true) := by
  unfold Conn.hello
  split
  · rename_i hd
    exact ⟨h, id, fun he => h.hello hd he⟩
  · simp only []
    match Conn.ehlo { c with didHello := true }, ehlo_facts { c with didHello := true } (ji_of_eq c _ h.ji rfl) with
    | (c1, none), ⟨e1, e2, _, _, _, e6⟩ =>
      exact ⟨⟨e1, fun _ _ => e6 rfl⟩, fun hi => e2 (idle_of_eq c _ hi rfl), fun _ => e6 rfl⟩
    | (c1, some _), ⟨e1, e2, _⟩ =>
      dsimp only
      match c1.helo, helo_facts c1 e1 with
      | (c2, r2), ⟨g1, g2, g6⟩ =>
        exact ⟨⟨ji_of_eq c2 _ g1 rfl, fun _ b => g6 b⟩,
          fun hi => idle_of_eq c2 _ (g2 (e2 (idle_of_eq c _ hi rfl))) rfl, fun b => g6 b⟩

/-- the state between two messages -/
structure Between (c : Conn) : Prop where
  sess : Sess c
  idle : Idle c

end GoMail.Smtp
