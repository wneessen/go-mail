import GoMailModel.Mime.Msg
/-
  The two key-value stores of a Msg, each with the equations through which proofs use it:
  association lists (genHeader: `assocSet` / `assocGet`) and header maps kept sorted by key
  (File.Header, a textproto.MIMEHeader as CreatePart walks it: `hmSet` / `hmGet`, ordered by `bytesLt`),
  and on each the step "set the key unless it is there" that a render takes (`ensure`, `ens`).
-/
namespace GoMail.Mime
open GoMail

/-- Every entry under the key `k` is `(k, v)`. `assocSet` rewrites ALL entries with the key, so this - not
    `assocGet l k = some v` - is what makes setting `v` again a no-op (`assocSet_fix`). -/
def AllVal {β} (l : List (Bytes × β)) (k : Bytes) (v : β) : Prop := ∀ kv ∈ l, (kv.1 == k) = true → kv = (k, v)

theorem assocGet_isSome_iff {β} (l : List (Bytes × β)) (k : Bytes) : (assocGet l k).isSome = l.any (·.1 == k) := by
  unfold assocGet
  induction l with
  | nil => rfl
  | cons x xs ih =>
    simp only [List.find?_cons, List.any_cons]
    cases h : (x.1 == k) <;> simp [ih]

theorem isSome_assocSet {β} (l : List (Bytes × β)) (k : Bytes) (v : β) (k' : Bytes) :
    (assocGet (assocSet l k v) k').isSome = ((assocGet l k').isSome || k == k') := by
  simp only [assocGet_isSome_iff, assocSet]
  split
  · rename_i h
    -- replacing an entry keeps its key
    have : ∀ kv : Bytes × β, ((if (kv.1 == k) = true then (k, v) else kv).1 == k') = (kv.1 == k') := by
      intro kv; split
      · rename_i e; rw [beq_iff_eq.mp e]
      · rfl
    simp only [List.any_map, Function.comp_def, this]
    cases e : k == k'
    · rw [Bool.or_false]
    · rw [← beq_iff_eq.mp e, h]; rfl
  · simp

theorem isSome_assocSet_of_isSome {β} {l : List (Bytes × β)} {k' : Bytes} (h : (assocGet l k').isSome = true)
    (k : Bytes) (v : β) : (assocGet (assocSet l k v) k').isSome = true := by
  rw [isSome_assocSet, h]; rfl

/-- the Date and Message-ID steps of `defaultGen`: addDefaultHeader sets these once -/
def ensure {β} (l : List (Bytes × β)) (k : Bytes) (v : β) : List (Bytes × β) :=
  if (assocGet l k).isSome then l else assocSet l k v

theorem isSome_ensure {β} (l : List (Bytes × β)) (k : Bytes) (v : β) (k' : Bytes) :
    (assocGet (ensure l k v) k').isSome = ((assocGet l k').isSome || k == k') := by
  unfold ensure
  split
  · rename_i h
    cases e : k == k'
    · rw [Bool.or_false]
    · rw [← beq_iff_eq.mp e, h]; rfl
  · exact isSome_assocSet l k v k'

theorem allVal_assocSet {β} (l : List (Bytes × β)) (k : Bytes) (v : β) : AllVal (assocSet l k v) k v := by
  intro kv hkv hk
  unfold assocSet at hkv
  split at hkv
  · obtain ⟨x, _, rfl⟩ := List.mem_map.mp hkv
    split
    · rfl
    · rename_i hx; rw [if_neg hx] at hk; exact absurd hk hx
  · rename_i h
    rcases List.mem_append.mp hkv with h1 | h1
    · exact absurd (List.any_eq_true.mpr ⟨kv, h1, hk⟩) h
    · exact List.mem_singleton.mp h1

theorem AllVal.assocSet_ne {β} {l : List (Bytes × β)} {k : Bytes} {v : β} (ha : AllVal l k v) (k' : Bytes) (v' : β)
    (hne : (k' == k) = false) : AllVal (assocSet l k' v') k v := by
  intro kv hkv hk
  unfold assocSet at hkv
  split at hkv
  · obtain ⟨x, hx, rfl⟩ := List.mem_map.mp hkv
    split at hk
    · rw [hne] at hk; cases hk
    · rename_i hx'; rw [if_neg hx']; exact ha x hx hk
  · rcases List.mem_append.mp hkv with h1 | h1
    · exact ha kv h1 hk
    · rw [List.mem_singleton.mp h1, hne] at hk; cases hk

theorem assocSet_fix {β} (l : List (Bytes × β)) (k : Bytes) (v : β) (ha : AllVal l k v) (hk : (assocGet l k).isSome = true) :
    assocSet l k v = l := by
  rw [assocGet_isSome_iff] at hk
  rw [assocSet, if_pos hk]
  conv => rhs; rw [← List.map_id l]
  apply List.map_congr_left
  intro kv hkv
  split
  · rename_i h; exact (ha kv hkv h).symm
  · rfl

theorem bytesLt_iff (a b : Bytes) : bytesLt a b = true ↔ a < b := by
  rw [← List.lex_eq_true_iff_lt]
  fun_induction bytesLt a b <;> simp_all [List.lex]

theorem bytesLt_irrefl : ∀ a : Bytes, bytesLt a a = false :=
  fun a => Bool.eq_false_iff.mpr fun h => List.lt_irrefl a ((bytesLt_iff a a).mp h)

theorem bytesLt_asymm (a b : Bytes) (h : bytesLt a b = true) : bytesLt b a = false :=
  Bool.eq_false_iff.mpr fun h' => List.lt_asymm ((bytesLt_iff a b).mp h) ((bytesLt_iff b a).mp h')

theorem bytesLt_trans (a b c : Bytes) (h1 : bytesLt a b = true) (h2 : bytesLt b c = true) : bytesLt a c = true :=
  (bytesLt_iff a c).mpr (List.lt_trans ((bytesLt_iff a b).mp h1) ((bytesLt_iff b c).mp h2))

theorem bytesLt_total (a b : Bytes) (hne : a ≠ b) : bytesLt a b = true ∨ bytesLt b a = true := by
  rw [bytesLt_iff, bytesLt_iff]
  apply Classical.byContradiction
  intro h
  have ⟨h1, h2⟩ := not_or.mp h
  exact hne (List.le_antisymm (List.not_lt.mp h2) (List.not_lt.mp h1))

/-- keys strictly ascending, hence no key twice -/
def HSorted (h : HeaderMap) : Prop := List.Pairwise (fun a b => bytesLt a.1 b.1 = true) h

theorem hmGet_cons (k0 v0 : Bytes) (xs : HeaderMap) (k : Bytes) :
    hmGet ((k0, v0) :: xs) k = if k0 == k then some v0 else hmGet xs k := by
  simp only [hmGet, List.find?_cons]; split <;> simp [*]

theorem hmGet_hmSet (h : HeaderMap) (k v k' : Bytes) :
    hmGet (hmSet h k v) k' = if k == k' then some v else hmGet h k' := by
  induction h with
  | nil => rw [hmSet, hmGet_cons]
  | cons x xs ih =>
    obtain ⟨k0, v0⟩ := x
    rw [hmSet]
    split
    · rename_i e
      rw [hmGet_cons, hmGet_cons, beq_iff_eq.mp e]
      split <;> rfl
    · split
      · rw [hmGet_cons]
      · rw [hmGet_cons, hmGet_cons, ih]
        split
        · rename_i hne _ e
          -- k0 = k' and k0 ≠ k: the new entry is not the one looked up
          rw [← beq_iff_eq.mp e, if_neg (fun h => hne (by rw [beq_iff_eq.mp h]; exact beq_self_eq_true k0))]
        · rfl

theorem hmHas_hmSet (h : HeaderMap) (k v k' : Bytes) :
    hmHas (hmSet h k v) k' = if k == k' then !v.isEmpty else hmHas h k' := by
  unfold hmHas; rw [hmGet_hmSet]; cases k == k' <;> rfl

theorem mem_hmSet {h : HeaderMap} {k v : Bytes} {b : Bytes × Bytes} (hb : b ∈ hmSet h k v) : b = (k, v) ∨ b ∈ h := by
  induction h with
  | nil => exact Or.inl (List.mem_singleton.mp hb)
  | cons x xs ih =>
    rw [hmSet] at hb
    split at hb
    · exact (List.mem_cons.mp hb).imp_right (List.mem_cons_of_mem _)
    · split at hb
      · exact List.mem_cons.mp hb
      · rcases List.mem_cons.mp hb with h1 | h1
        · exact Or.inr (h1 ▸ List.mem_cons_self)
        · exact (ih h1).imp_right (List.mem_cons_of_mem _)

theorem hsorted_set (h : HeaderMap) (k v : Bytes) (hs : HSorted h) : HSorted (hmSet h k v) := by
  induction h with
  | nil => exact List.pairwise_singleton _ _
  | cons x xs ih =>
    obtain ⟨h1, h2⟩ := List.pairwise_cons.mp hs
    rw [hmSet]
    split
    · rename_i e
      rw [← beq_iff_eq.mp e]
      exact List.pairwise_cons.mpr ⟨h1, h2⟩
    · split
      · rename_i hlt
        refine List.pairwise_cons.mpr ⟨fun b hb => ?_, hs⟩
        rcases List.mem_cons.mp hb with hb | hb
        · rw [hb]; exact hlt
        · exact bytesLt_trans _ _ _ hlt (h1 b hb)
      · rename_i hne hnlt
        refine List.pairwise_cons.mpr ⟨fun b hb => ?_, ih h2⟩
        rcases mem_hmSet hb with hb | hb
        · rw [hb]
          exact (bytesLt_total x.1 k (fun e => hne (by rw [e]; exact beq_self_eq_true k))).resolve_right hnlt
        · exact h1 b hb

theorem hmGet_mem {h : HeaderMap} {k v : Bytes} (hg : hmGet h k = some v) : ∃ b ∈ h, b.1 = k := by
  unfold hmGet at hg
  cases hf : h.find? (·.1 == k) with
  | none => rw [hf] at hg; cases hg
  | some b => exact ⟨b, List.mem_of_find?_eq_some hf, beq_iff_eq.mp (by simpa using List.find?_some hf)⟩

theorem hmSet_fix (h : HeaderMap) (k v : Bytes) (hs : HSorted h) (hg : hmGet h k = some v) : hmSet h k v = h := by
  induction h with
  | nil => cases hg
  | cons x xs ih =>
    obtain ⟨k0, v0⟩ := x
    obtain ⟨h1, h2⟩ := List.pairwise_cons.mp hs
    rw [hmGet_cons] at hg
    rw [hmSet]
    split
    · rename_i e
      rw [if_pos e] at hg
      rw [← beq_iff_eq.mp e, Option.some.inj hg]
    · rename_i hne
      rw [if_neg hne] at hg
      obtain ⟨b, hb, hbk⟩ := hmGet_mem hg
      -- `k` is a key of the tail, hence above the head
      rw [if_neg (by rw [← hbk, bytesLt_asymm _ _ (h1 b hb)]; exact Bool.false_ne_true), ih h2 hg]

/-- one `if the header is missing then set it` step of addFiles; `c` switches the step off -/
def ens (c : Bool) (k v : Bytes) (h : HeaderMap) : HeaderMap := if (c || hmHas h k) = true then h else hmSet h k v

theorem ens_sorted {h : HeaderMap} (hs : HSorted h) (c : Bool) (k v : Bytes) : HSorted (ens c k v h) := by
  unfold ens; split
  · exact hs
  · exact hsorted_set h k v hs

/-- a step never loses a header, whatever the keys: it only sets a value where none was -/
theorem ens_keeps {h : HeaderMap} {k' : Bytes} (hk : hmHas h k' = true) (c : Bool) (k v : Bytes) :
    hmHas (ens c k v h) k' = true := by
  unfold ens; split
  · exact hk
  · rename_i hn
    rw [hmHas_hmSet]; split
    · rename_i e; rw [beq_iff_eq.mp e, hk, Bool.or_true] at hn; exact absurd rfl hn
    · exact hk

theorem ens_has (c : Bool) (k v : Bytes) (h : HeaderMap) (hv : c = false → v ≠ []) :
    c = true ∨ hmHas (ens c k v h) k = true := by
  unfold ens
  cases c
  · right; split
    · rename_i hk; exact hk
    · rw [hmHas_hmSet, if_pos (beq_self_eq_true k)]
      cases v with
      | nil => exact absurd rfl (hv rfl)
      | cons _ _ => rfl
  · left; rfl

end GoMail.Mime
