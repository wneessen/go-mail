import GoMailModel.Codec.EncodedWordDec
import GoMailModel.Proofs.B64
/-
  RFC 2047 round trip: the reader of Codec/EncodedWordDec applied to what mime.WordEncoder (model:
  Codec/EncodedWord) emits gives back the text, for EVERY byte string, both encodings, every charset
  label without '?', however the encoder splits the text into words.
-/
namespace GoMail.EncodedWord
open GoMail

theorem dec_charset (cs r : Bytes) (h : ∀ c ∈ cs, c ≠ 63) : dec .charset (cs ++ 63 :: r) = dec .encoding r := by
  induction cs with
  | nil => simp [dec]
  | cons c cs ih =>
    have hc : (c == 63) = false := by simpa using h c (by simp)
    simp only [List.cons_append, dec, hc, Bool.false_eq_true, if_false]
    exact ih (fun x hx => h x (by simp [hx]))

/-- the state in which the reader is inside the text of a word -/
def DS.text : Enc → DS
  | .q => .q
  | .b => .b []

/-- "=?charset?q?" and "=?charset?b?", read from the '?' on (`open1`), lead into the text -/
theorem dec_open (e : Enc) (cs r : Bytes) (h : ∀ c ∈ cs, c ≠ 63) :
    dec .open1 (63 :: (cs ++ 63 :: (match e with | .q => (113 : UInt8) | .b => 98) :: 63 :: r)) = dec (DS.text e) r := by
  simp only [dec, beq_self_eq_true, if_true]
  rw [dec_charset cs _ h]
  cases e <;> simp [dec, DS.text]

theorem dec_openWord (e : Enc) (cs r : Bytes) (h : ∀ c ∈ cs, c ≠ 63) :
    dec .open0 (openWord e cs ++ r) = dec (DS.text e) r := by
  simp only [openWord, List.cons_append, List.nil_append, List.append_assoc]
  rw [dec, if_pos (by decide)]
  exact dec_open e cs r h

theorem dec_splitWord (e : Enc) (cs r : Bytes) (h : ∀ c ∈ cs, c ≠ 63) :
    dec .between (([32] : Bytes) ++ openWord e cs ++ r) = dec (DS.text e) r := by
  simp only [openWord, List.cons_append, List.nil_append, List.append_assoc]
  rw [dec, if_pos (by decide), dec, if_neg (by decide), if_pos (by decide)]
  exact dec_open e cs r h

theorem dec_qByte (b : UInt8) (r : Bytes) : dec .q (qByte b ++ r) = (dec .q r).map (b :: ·) := by
  unfold qByte
  split
  · rename_i h
    simp [dec, eq_of_beq h]
  · split
    · rename_i h32 h
      simp only [Bool.and_eq_true, bne_iff_ne, ne_eq] at h
      simp [dec, h.1.1.2, h.1.2, h.2, show b ≠ 32 from fun e => h32 (by simp [e])]
    · simp [dec, hex_pair b]

theorem dec_qString (xs r : Bytes) : dec .q (qString xs ++ r) = (dec .q r).map (xs ++ ·) := by
  induction xs with
  | nil => simp [qString]
  | cons b xs ih =>
    have : qString (b :: xs) ++ r = qByte b ++ (qString xs ++ r) := by simp [qString, List.append_assoc]
    rw [this, dec_qByte, ih]
    cases dec .q r <;> simp

theorem dec_closeQ (r : Bytes) : dec .q (closeWord ++ r) = dec .between r := by
  simp [closeWord, dec]

theorem dec_qLoop (cs : Bytes) (h : ∀ c ∈ cs, c ≠ 63) (s : Bytes) (cur : Nat) :
    dec .q (qLoop cs s cur ++ closeWord) = some s := by
  fun_induction qLoop cs s cur with
  | case1 => simpa [dec] using dec_closeQ []
  | case2 b rest cur plain rl encLen pre cur' ih =>
    have hpre : ∀ r, dec .q (pre ++ r) = dec .q r := by
      intro r
      simp only [pre]
      split
      · rw [splitWord, List.append_assoc, List.append_assoc, dec_closeQ, ← List.append_assoc]
        exact dec_splitWord .q cs r h
      · rfl
    rw [List.append_assoc, List.append_assoc, hpre, dec_qString, ih]
    simp

theorem encode_no_qmark (xs : Bytes) : ∀ c ∈ Base64.encode xs, c ≠ 63 :=
  fun c hc => ne_of_class (Base64.isAlpha · = true) (Base64.encode_alpha xs c hc) (by decide)

theorem dec_b_text (acc xs r : Bytes) (h : ∀ c ∈ xs, c ≠ 63) : dec (.b acc) (xs ++ r) = dec (.b (acc ++ xs)) r := by
  induction xs generalizing acc with
  | nil => simp
  | cons c xs ih =>
    have hc : (c == 63) = false := by simpa using h c (by simp)
    simp only [List.cons_append, dec, hc, Bool.false_eq_true, if_false]
    rw [ih _ (fun x hx => h x (by simp [hx]))]
    simp [List.append_assoc]

theorem dec_b_word (p r : Bytes) : dec (.b []) (Base64.encode p ++ closeWord ++ r) = (dec .between r).map (p ++ ·) := by
  rw [List.append_assoc, dec_b_text [] _ _ (encode_no_qmark p)]
  simp [closeWord, dec, Base64.decode_encode]

theorem dec_bLoop (cs : Bytes) (h : ∀ c ∈ cs, c ≠ 63) (pending s : Bytes) (cur : Nat) :
    dec (.b []) (bLoop cs pending s cur ++ closeWord) = some (pending ++ s) := by
  fun_induction bLoop cs pending s cur with
  | case1 pending cur => simpa [dec] using dec_b_word pending []
  | case2 pending b rest cur rl hle ih =>
    rw [ih, List.append_assoc, List.take_append_drop]
  | case3 pending b rest cur rl hgt ih =>
    have := dec_splitWord .b cs (bLoop cs ((b :: rest).take rl) ((b :: rest).drop rl) rl ++ closeWord) h
    simp only [splitWord, List.append_assoc] at this ⊢
    rw [← List.append_assoc (Base64.encode pending), dec_b_word, this, DS.text, ih]
    simp

theorem decodeWords_encodeWord (e : Enc) (cs s : Bytes) (h : ∀ c ∈ cs, c ≠ 63) :
    decodeWords (encodeWord e cs s) = some s := by
  unfold decodeWords encodeWord
  rw [List.append_assoc, dec_openWord e cs _ h]
  cases e with
  | q =>
    simp only [qEncode, DS.text]
    split
    · rw [dec_qString]
      simpa [dec] using dec_closeQ []
    · exact dec_qLoop cs h s 0
  | b =>
    simp only [bEncode, DS.text]
    split
    · simpa [dec] using dec_b_word s []
    · simpa using dec_bLoop cs h [] s 0

end GoMail.EncodedWord
