import GoMailModel.Proofs.Kept
import GoMailModel.Proofs.Exchange
import GoMailModel.Proofs.SendOne
/-
  Which messages did the server acknowledge? A second reading of the event trace, independent of the
  legality automaton: remember the message whose COMPLETE content was handed to the DATA stream last,
  remember that an end-of-data marker awaits its reply, and record the message when that reply is 250.
-/
namespace GoMail.Smtp
open GoMail

structure AckSt where
  last  : Option Nat := none     -- the message whose complete content was handed to DATA last
  pend  : Bool := false          -- an end-of-data marker awaits its reply
  acked : List Nat := []         -- messages whose end-of-data marker was answered 250, in order
deriving Repr, DecidableEq

def AckSt.step (s : AckSt) : Ev → AckSt
  | .content i true => { s with last := some i }
  | .content _ false => { s with last := none }
  | .eod => { s with pend := true }
  | .reply code =>
    if s.pend then { s with pend := false, acked := if code == 250 then s.acked ++ s.last.toList else s.acked }
    else s
  | .garbage | .drop | .close | .stall _ => { s with pend := false }
  | .connect | .cmd _ _ | .deadline | .tlsOn | .tlsFail => s

def acks (t : List Ev) : AckSt := t.foldl AckSt.step {}

theorem acks_snoc (t : List Ev) (e : Ev) : acks (t ++ [e]) = (acks t).step e := by
  simp [acks, List.foldl_append]

theorem acks_ev (c : Conn) (e : Ev) : acks (c.ev e).trace = (acks c.trace).step e := acks_snoc _ _

theorem step_quiet (s : AckSt) (e : Ev) (hp : s.pend = false) (hq : quietEv e = true) : s.step e = s := by
  cases s with
  | mk l p a =>
    simp only at hp
    subst hp
    cases e <;> simp_all [AckSt.step, quietEv]

/-- Every operation of the session model except the content hand-over and dataCloser.Close leaves a
    settled acknowledgement state as it is; that is what makes `acks` change only where sendOne
    reports `delivered`. -/
theorem acks_kept (s : AckSt) (hp : s.pend = false) : KeptDial (fun c => acks c.trace = s) where
  obs := Iff.rfl
  ev e he h := by rw [acks_ev, h, step_quiet s e hp he]
  wait h := by rw [acks_ev, h]; cases s; subst hp; rfl
  shut h := h
  arm h := h
  flags _ _ _ _ h := h

theorem serverTurn_eod (d : Conn) (s : AckSt) (hp : s.pend = false) (h : acks d.trace = { s with pend := true })
    (hg : d.srvGone = false) (hs : d.srvSilent = false) :
    acks (d.serverTurn .eod 250).1.trace =
      match (d.serverTurn .eod 250).2 with
      | .ok _ => { s with acked := s.acked ++ s.last.toList }
      | .error _ => s := by
  obtain ⟨l, p, a⟩ := s
  subst hp
  have r := serverTurn_live d .eod 250 hg hs
  cases r with
  | reply code text hr ht _ =>
    rw [ht, acks_snoc, h, hr]
    by_cases hc : code = 250
    · simp [AckSt.step, hc, codeMatches]
    · simp [AckSt.step, hc, codeMatches]
  | garbage hr ht _ _ => rw [ht, acks_snoc, h, hr]; rfl
  | drop hr ht _ => rw [ht, acks_snoc, h, hr]; rfl
  | stall _ hr ht _ => rcases hr with hr | hr <;> (rw [ht, acks_snoc, h, hr]; rfl)

theorem endData_acks (c : Conn) (s : AckSt) (hp : s.pend = false) (h : acks c.trace = s) :
    (c.endData.2 = none → acks c.endData.1.trace = { s with acked := s.acked ++ s.last.toList }) ∧
    (∀ e, c.endData.2 = some e → acks c.endData.1.trace = s) := by
  have k := (acks_kept s hp).toKept
  unfold Conn.endData
  split
  · exact ⟨fun x => (by cases x), fun _ _ => h⟩
  dsimp only
  by_cases hq : (c.srvGone || c.srvSilent) = true
  · -- nobody there: the marker is not sent, the read fails
    simp only [hq, if_true]
    match c.serverTurn .eod 250, k.serverTurn .eod 250 h, (serverTurn_dead c .eod 250 hq).2 with
    | (_, .error _), h1, _ => exact ⟨fun x => (by cases x), fun _ _ => h1⟩
  · simp only [hq, Bool.false_eq_true, if_false]
    have hgs : c.srvGone = false ∧ c.srvSilent = false := by simpa using hq
    have h1 := serverTurn_eod { c.ev .eod with inData := false } s hp
      (by show acks (c.ev .eod).trace = _; rw [acks_ev, h]; rfl) hgs.1 hgs.2
    match Conn.serverTurn { c.ev .eod with inData := false } .eod 250, h1 with
    | (_, .ok _), h1 => exact ⟨fun _ => h1, fun _ x => (by cases x)⟩
    | (_, .error _), h1 => exact ⟨fun x => (by cases x), fun _ _ => h1⟩

theorem sendOne_acks (cfg : SendCfg) (c : Conn) (idx : Nat) (m : MsgIn) (hp : (acks c.trace).pend = false) :
    (acks (sendOne cfg c idx m false).1.trace).pend = false ∧
    (acks (sendOne cfg c idx m false).1.trace).acked =
      (acks c.trace).acked ++ (bif (sendOne cfg c idx m false).2.delivered then [idx] else []) := by
  generalize h0 : acks c.trace = s at hp ⊢
  obtain ⟨l, p, a⟩ := s
  subst hp
  -- the acknowledgement state is settled throughout; `last` changes at the content hand-over, `acked` at the 250
  let S (l : Option Nat) (a : List Nat) (c : Conn) : Prop := acks c.trace = ⟨l, false, a⟩
  have K := fun l a => acks_kept ⟨l, false, a⟩ rfl
  have k := K l a
  have kc := k.toCmd
  have hcont : ∀ {c : Conn} (b : Bool), S l a c → S (if b then some idx else none) a (c.ev (.content idx b)) := by
    intro c b h
    show acks (c.ev _).trace = _
    rw [acks_ev, h]
    cases b <;> rfl
  exact sendOne_outline (P := S l a) (A := S l a) (M := S l a) (R := S l a) (D := S l a)
    (E := S (some idx) (a ++ [idx])) (F := fun c => ∃ l', S l' a c)
    (Q := fun r => (acks r.1.trace).pend = false ∧ (acks r.1.trace).acked = a ++ (bif r.2.delivered then [idx] else []))
    cfg idx m false
    (ext := fun s h => kc.extension s h)
    (dsn := fun _ h => h)
    (early := fun h => ⟨l, h⟩)
    (mail := fun a' h => ⟨fun _ _ => k.mail a' h, fun _ => k.mail a' h⟩)
    (abort := fun se h => ⟨l, kc.abortTx se h⟩)
    (rcpts := fun esc se _ h => ⟨fun _ => k.rcptLoop esc m.rcpts se false h, fun _ => k.rcptLoop esc m.rcpts se false h⟩)
    (data := fun h => ⟨fun _ _ => k.data h, fun _ => k.data h⟩)
    (renderFails := fun h => ⟨none, (K _ _).close (hcont false h)⟩)
    (writeBlocks := fun h => ⟨none, (K _ _).close ((K _ _).wait (hcont false h))⟩)
    (eod := fun h => ⟨fun e he => ⟨some idx, (endData_acks _ _ rfl (hcont true h)).2 e he⟩,
      fun he => (endData_acks _ _ rfl (hcont true h)).1 he⟩)
    (exitFail := fun _ ⟨l', h⟩ => by show _ ∧ _; rw [h]; exact ⟨rfl, by simp⟩)
    (exitOk := fun _ h _ => by show _ ∧ _; rw [(K _ _).toCmd.resetWith cfg h]; exact ⟨rfl, rfl⟩)
    h0

/-- batch positions, counted from `i`, of the outcomes that report `delivered` -/
def deliveredIdx : Nat → List MsgOut → List Nat
  | _, [] => []
  | i, o :: os => (if o.delivered then [i] else []) ++ deliveredIdx (i + 1) os

theorem sendLoop_acks (cfg : SendCfg) (c : Conn) (i : Nat) (ms : List MsgIn) (hp : (acks c.trace).pend = false) :
    (acks (sendLoop cfg c i ms).1.trace).pend = false ∧
    (acks (sendLoop cfg c i ms).1.trace).acked = (acks c.trace).acked ++ deliveredIdx i (sendLoop cfg c i ms).2 := by
  induction ms generalizing c i with
  | nil => simp [sendLoop, deliveredIdx, hp]
  | cons m rest ih =>
    unfold sendLoop
    dsimp only
    have h1 := sendOne_acks cfg c i m hp
    have h2 := ih (sendOne cfg c i m false).1 (i + 1) h1.1
    refine ⟨h2.1, ?_⟩
    rw [h2.2, h1.2]
    simp [deliveredIdx, List.append_assoc]

theorem sendBatch_acks (cfg : SendCfg) (c : Conn) (ms : List MsgIn) (hp : (acks c.trace).pend = false) :
    (acks (sendBatch cfg c ms).1.trace).pend = false ∧
    (acks (sendBatch cfg c ms).1.trace).acked =
      (acks c.trace).acked ++ (match (sendBatch cfg c ms).2.1 with | some outs => deliveredIdx 0 outs | none => []) := by
  have k := (acks_kept _ hp).toCmd
  unfold sendBatch
  dsimp only
  match checkConn cfg (c.extension "ENHANCEDSTATUSCODES").1, k.checkConn cfg (k.extension "ENHANCEDSTATUSCODES" rfl) with
  | (_, some _), h2 => exact ⟨by rw [h2]; exact hp, by rw [h2]; simp⟩
  | (c2, none), h2 =>
    have h3 := sendLoop_acks cfg c2 0 ms (by rw [h2]; exact hp)
    rw [h2] at h3
    exact h3

theorem deliveredIdx_eq (i : Nat) (os : List MsgOut) :
    deliveredIdx i os = (os.zipIdx i).filterMap (fun p => if p.1.delivered then some p.2 else none) := by
  induction os generalizing i with
  | nil => rfl
  | cons o rest ih =>
    rw [deliveredIdx, ih, List.zipIdx_cons, List.filterMap_cons]
    cases o.delivered <;> rfl

theorem deliveredIdx_pairwise (i : Nat) (os : List MsgOut) : (deliveredIdx i os).Pairwise (· < ·) := by
  rw [deliveredIdx_eq]
  have hp : (os.zipIdx i).Pairwise (fun a b => a.2 < b.2) :=
    List.pairwise_map.mp (by rw [List.zipIdx_map_snd]; exact List.pairwise_lt_range')
  have idx : ∀ {p : MsgOut × Nat} {k : Nat}, (if p.1.delivered then some p.2 else none) = some k → k = p.2 := by
    intro p k hk
    split at hk <;> cases hk
    rfl
  exact hp.filterMap _ fun a a' h b hb b' hb' => by rw [idx hb, idx hb']; exact h

theorem mem_deliveredIdx (i : Nat) (os : List MsgOut) (k : Nat) :
    k ∈ deliveredIdx i os ↔ ∃ o, os[k - i]? = some o ∧ i ≤ k ∧ o.delivered = true := by
  rw [deliveredIdx_eq]
  simp only [List.mem_filterMap, List.mem_zipIdx_iff_le_and_getElem?_sub, Prod.exists]
  constructor
  · rintro ⟨o, k', ⟨hle, hget⟩, hk⟩
    split at hk
    · rename_i hd
      cases hk
      exact ⟨o, hget, hle, hd⟩
    · cases hk
  · rintro ⟨o, hget, hle, hd⟩
    exact ⟨o, k, ⟨hle, hget⟩, by rw [if_pos hd]⟩

end GoMail.Smtp
