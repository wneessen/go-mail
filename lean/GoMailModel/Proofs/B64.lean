import GoMailModel.Codec.Base64
import GoMailModel.Proofs.ByteTables
/-
  RFC 4648 decoder ∘ Go's StdEncoding encoder = identity, for EVERY byte string; and the alphabet of
  what the encoder writes. Facts about two bytes are reduced to the 64 combinations of a 2-bit and a
  4-bit field.
-/
namespace GoMail.Base64
open GoMail

theorem val_char : ∀ n : UInt8, n.toNat < 64 → val (char n) = some n ∧ char n ≠ 61 := by
  apply forall_uint8_lt
  decide +kernel

/-- The second sextet of a group, `(a &&& 3) <<< 4 ||| (b >>> 4)`: a 2-bit field `p` above a 4-bit field `q`.
    The decoder's two shifts of it give the fields back, and it is an alphabet index. -/
theorem mid4 : ∀ p : UInt8, p.toNat < 4 → ∀ q : UInt8, q.toNat < 16 →
    ((p <<< 4) ||| q) >>> 4 = p ∧ ((p <<< 4) ||| q) <<< 4 = q <<< 4 ∧ ((p <<< 4) ||| q).toNat < 64 := by
  apply forall_uint8_lt
  intro p
  apply forall_uint8_lt
  revert p
  decide +kernel

/-- The same for the third sextet, `(b &&& 15) <<< 2 ||| (c >>> 6)`: a 4-bit field above a 2-bit field. -/
theorem mid2 : ∀ p : UInt8, p.toNat < 16 → ∀ q : UInt8, q.toNat < 4 →
    ((p <<< 2) ||| q) >>> 2 = p ∧ ((p <<< 2) ||| q) <<< 6 = q <<< 6 ∧ ((p <<< 2) ||| q).toNat < 64 := by
  apply forall_uint8_lt
  intro p
  apply forall_uint8_lt
  revert p
  decide +kernel

theorem decode_quad (x y z w : UInt8) (rest : Bytes) (hz : z ≠ 61) (hw : w ≠ 61) :
    decode (x :: y :: z :: w :: rest) =
      (match val x, val y, val z, val w, decode rest with
       | some x, some y, some z, some w, some r =>
         some (((x <<< 2) ||| (y >>> 4)) :: ((y <<< 4) ||| (z >>> 2)) :: ((z <<< 6) ||| w) :: r)
       | _, _, _, _, _ => none) := by
  rw [decode.eq_def]
  split
  · rename_i heq; cases heq
  · rename_i heq; simp only [List.cons.injEq] at heq; exact absurd heq.2.2.1 hz
  · rename_i heq; simp only [List.cons.injEq] at heq; exact absurd heq.2.2.2.1 hw
  · rename_i heq
    simp only [List.cons.injEq] at heq
    obtain ⟨h1, h2, h3, h4, h5⟩ := heq
    subst h1; subst h2; subst h3; subst h4; subst h5; rfl
  · rename_i hn
    exact (hn _ _ _ _ _ rfl).elim

theorem decode_encode : ∀ xs : Bytes, decode (encode xs) = some xs
  | [] => by simp [encode, decode]
  | [a] => by
    -- a padded group is the full group with 0 for the missing bytes
    obtain ⟨y1, -, y3⟩ := mid4 _ (and3_lt a) 0 (by decide)
    rw [UInt8.or_zero] at y1 y3
    simp only [encode]
    rw [decode.eq_def]
    simp only [(val_char _ (shr2_lt a)).1, (val_char _ y3).1, y1, glue2 a]
  | [a, b] => by
    obtain ⟨y1, y2, y3⟩ := mid4 _ (and3_lt a) _ (shr4_lt b)
    obtain ⟨z1, -, z3⟩ := mid2 _ (and15_lt b) 0 (by decide)
    rw [UInt8.or_zero] at z1 z3
    simp only [encode]
    rw [decode.eq_def]
    split
    · rename_i heq; cases heq
    · rename_i heq; simp only [List.cons.injEq] at heq; exact absurd heq.2.2.1 (val_char _ z3).2
    · rename_i heq
      simp only [List.cons.injEq, and_true] at heq
      obtain ⟨e1, e2, e3⟩ := heq
      subst e1; subst e2; subst e3
      simp only [(val_char _ (shr2_lt a)).1, (val_char _ y3).1, (val_char _ z3).1, y1, y2, z1,
        glue2 a, glue4 b]
    · rename_i hn heq
      simp only [List.cons.injEq] at heq
      exact (hn heq.2.2.2.1.symm heq.2.2.2.2.symm).elim
    · rename_i hn _
      exact (hn _ _ _ rfl).elim
  | a :: b :: c :: rest => by
    obtain ⟨y1, y2, y3⟩ := mid4 _ (and3_lt a) _ (shr4_lt b)
    obtain ⟨z1, z2, z3⟩ := mid2 _ (and15_lt b) _ (shr6_lt c)
    simp only [encode]
    rw [decode_quad _ _ _ _ _ (val_char _ z3).2 (val_char _ (and63_lt c)).2]
    rw [(val_char _ (shr2_lt a)).1, (val_char _ y3).1, (val_char _ z3).1, (val_char _ (and63_lt c)).1,
      decode_encode rest]
    simp only [y1, y2, z1, z2, glue2 a, glue4 b, glue6 c]

/-- a byte of the StdEncoding alphabet, or the padding "=" -/
def isAlpha (c : UInt8) : Bool :=
  (65 ≤ c && c ≤ 90) || (97 ≤ c && c ≤ 122) || (48 ≤ c && c ≤ 57) || c == 43 || c == 47 || c == 61

theorem char_alpha : ∀ n : UInt8, isAlpha (char n) = true := by
  apply forall_uint8
  decide +kernel

theorem encode_alpha (x : Bytes) : ∀ c ∈ encode x, isAlpha c = true := by
  have pad : isAlpha 61 = true := by decide
  fun_induction encode x with
  | case1 => nofun
  | case2 a =>
    simp only [List.forall_mem_cons]
    exact ⟨char_alpha _, char_alpha _, pad, pad, nofun⟩
  | case3 a b =>
    simp only [List.forall_mem_cons]
    exact ⟨char_alpha _, char_alpha _, char_alpha _, pad, nofun⟩
  | case4 a b c rest ih =>
    simp only [List.forall_mem_cons]
    exact ⟨char_alpha _, char_alpha _, char_alpha _, char_alpha _, ih⟩

theorem alpha_bounds : ∀ c : UInt8, isAlpha c = true → 43 ≤ c ∧ c ≤ 122 := by
  apply forall_uint8
  decide +kernel

theorem alpha_not_crlf (c : UInt8) (h : isAlpha c = true) : c ≠ 13 ∧ c ≠ 10 :=
  ⟨ne_of_class (isAlpha · = true) h (by decide), ne_of_class (isAlpha · = true) h (by decide)⟩

end GoMail.Base64
