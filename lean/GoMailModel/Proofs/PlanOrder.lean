import GoMailModel.Proofs.Plan
/-
  In the write plan of a message every multipart is opened before the first content producer runs:
  the content stage (body parts, embeds, attachments, closing delimiters, signature part) contains no
  `mw.err = SetBoundary(..)` assignment, the only thing that can take an error back. Hence a failing
  producer is reported for EVERY message, render, boundary state and destination
  (`C12.producer_failure_reported`).
-/
namespace GoMail.Mime
open GoMail

/-- the error is set once the plan written so far has run from `m` -/
def PW.Failed (m : MW) (p : PW) : Prop := (exec p.acts m).err = true

section
variable (m : MW)

theorem PW.Adds.failed {p p' : PW} (h : p.Adds NotClear p') (he : p.Failed m) : p'.Failed m := by
  obtain ⟨Y, e, n⟩ := h
  unfold PW.Failed
  rw [e, exec_append]
  exact exec_err_of_notClear Y _ n he

theorem body_failed (p : PW) (enc : EncLabel) (pr : Producer) (h : pr.fails = true) : (p.body enc pr).Failed m := by
  simp only [PW.Failed, PW.body, h, exec_append]
  exact step_body_fails _ _ _

/-- a fold of producers, none of which clears the error: it is set afterwards if it was set before or
    one of them fails -/
theorem foldl_failed {α} (f : PW → α → PW) (fails : α → Prop) (hadd : ∀ (p : PW) x, p.Adds NotClear (f p x))
    (hfail : ∀ p x, fails x → (f p x).Failed m) (l : List α) (p : PW)
    (h : p.Failed m ∨ ∃ x ∈ l, fails x) : (l.foldl f p).Failed m := by
  induction l generalizing p with
  | nil =>
    rcases h with h | ⟨x, hx, _⟩
    · exact h
    · cases hx
  | cons x xs ih =>
    apply ih
    rcases h with h | ⟨y, hy, hf⟩
    · exact Or.inl ((hadd p x).failed m h)
    · rcases List.mem_cons.mp hy with rfl | hy
      · exact Or.inl (hfail p y hf)
      · exact Or.inr ⟨y, hy, hf⟩

/-- the content stage clears nothing and runs the producer of every rendered part and file -/
theorem stageContent_failed (s : MsgState) (outer : Bool) (p : PW) (embeds attachments : List FileM)
    (h : (∃ x ∈ s.parts.filter (fun x => !x.deleted && !x.smime), x.prod.fails = true) ∨
      (∃ f ∈ embeds, f.prod.fails = true) ∨ (∃ f ∈ attachments, f.prod.fails = true)) :
    (stageContent s outer p embeds attachments).Failed m := by
  have stop : ∀ (c : Bool) (q : PW), q.Failed m → (if c = true then q.stopMP else q).Failed m :=
    fun c q => (stopMP_if_adds notClear_w c q).failed m
  have parts : ∀ (l : List Part) (q : PW), (q.Failed m ∨ ∃ x ∈ l, x.prod.fails = true) →
      (l.foldl (fun p x => p.writePart s x) q).Failed m :=
    foldl_failed m _ _ (fun q x => writePart_adds notClear_w q s x (notClear_body _))
      (fun q x => body_failed m _ _ _)
  have files : ∀ (l : List FileM) (q : PW), (q.Failed m ∨ ∃ f ∈ l, f.prod.fails = true) →
      (l.foldl PW.addFile q).Failed m :=
    foldl_failed m _ _ (fun q f => addFile_adds notClear_w q f (notClear_body _))
      (fun q f => body_failed m _ _ _)
  unfold stageContent
  simp only []
  have signature : ∀ q : PW, q.Failed m →
      (if outer = true then ((s.parts.filter (·.smime)).foldl (fun p x => p.writePart s x) q).stopMP else q).Failed m := by
    intro q hq
    split
    · exact (stopMP_adds notClear_w _).failed m (parts _ q (Or.inl hq))
    · exact hq
  -- backwards through the stage: each fold takes the disjunct of its own producers and leaves the rest
  -- to the folds before it
  apply signature
  apply stop
  apply files
  refine (or_assoc.mpr h).imp_left (fun h => ?_)
  apply stop
  apply files
  refine h.imp_left (fun h => ?_)
  apply stop
  apply parts
  exact Or.inr h

end

end GoMail.Mime
