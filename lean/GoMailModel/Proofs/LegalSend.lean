import GoMailModel.Proofs.LegalKept
import GoMailModel.Proofs.SendOne
/-
  Session legality, the send path: the mail transaction (MAIL, RCPT loop, DATA, end-of-data, RSET) and
  the send path of mail.Client; the greeting, and with it the whole dial and the whole of DialAndSend;
  the C04 theorem.
-/
namespace GoMail.Smtp
open GoMail

theorem reset_facts (c : Conn) (h : Sess c) : Sess c.reset.1 ∧ (c.reset.2 = none → Idle c.reset.1) := by
  unfold Conn.reset Conn.simple
  match c.hello, hello_facts c h with
  | (_, some _), ⟨a, _⟩ => exact ⟨a, fun x => (by cases x)⟩
  | (c1, none), ⟨a, _⟩ =>
    dsimp only
    match c1.cmd .rset (sb "RSET") 250, sess_cmd c1 .rset (sb "RSET") 250 a (fun _ => rfl),
        cmd_ok_exact c1 .rset (sb "RSET") 250 with
    | (_, .error _), s1, _ => exact ⟨s1, fun x => (by cases x)⟩
    | (_, .ok (code, text)), s1, hok =>
      refine ⟨s1, fun _ _ => ?_⟩
      rw [hok code text a.ji (by decide) rfl]; simp [J.onReply, J.sent, ok2]

/-- inside the RCPT loop: `ok` = no recipient was refused so far (client's view), `some` = at least one was sent -/
def RPhase (c : Conn) (ok some : Bool) : Prop :=
  live c → (((judge c.trace).tx = .mail ∨ (judge c.trace).tx = .rcpt) ∧
    (ok = true → (judge c.trace).rejected = 0 ∧ (some = true → (judge c.trace).tx = .rcpt ∧ (judge c.trace).accepted > 0)))

/-- DATA is legal: a recipient was accepted, none was refused -/
def RcptsOk (c : Conn) : Prop :=
  live c → (judge c.trace).tx = .rcpt ∧ (judge c.trace).accepted > 0 ∧ (judge c.trace).rejected = 0

/-- as far as a live server is concerned, the transaction is in state `t` -/
def InTx (c : Conn) (t : Tx) : Prop := live c → (judge c.trace).tx = t

theorem mail_facts (c : Conn) (sender : Bytes) (h : Sess c) (hi : Idle c) :
    Sess (c.mail sender).1 ∧ ((c.mail sender).2 = none → RPhase (c.mail sender).1 true false) := by
  unfold Conn.mail
  split
  · exact ⟨h, fun x => by cases x⟩
  · match c.hello, hello_facts c h with
    | (_, some _), ⟨a, _⟩ => exact ⟨a, fun x => (by cases x)⟩
    | (c1, none), ⟨a, b, d⟩ =>
      dsimp only
      have hvok : live c1 → (judge c1.trace).vOk .mail = true := by
        intro hl; simp [J.vOk, d rfl, b hi hl]
      match c1.cmd .mail (c1.mailLine sender) 250, sess_cmd c1 .mail (c1.mailLine sender) 250 a hvok,
          cmd_ok_exact c1 .mail (c1.mailLine sender) 250 with
      | (_, .error _), s1, _ => exact ⟨s1, fun x => (by cases x)⟩
      | (_, .ok (code, text)), s1, hok =>
        refine ⟨s1, fun _ _ => ?_⟩
        rw [hok code text a.ji (by decide) rfl]; simp [J.onReply, J.sent, ok2]

theorem rphase_weaken (c : Conn) (ok some : Bool) (h : RPhase c ok some) : RPhase c false some :=
  fun hl => ⟨(h hl).1, fun x => by cases x⟩

theorem rcpt_facts (c : Conn) (to : Bytes) (ok some : Bool) (h : Sess c) (hp : RPhase c ok some) :
    Sess (c.rcpt to).1 ∧ ((c.rcpt to).2 = none → RPhase (c.rcpt to).1 ok true) ∧
    RPhase (c.rcpt to).1 false true := by
  unfold Conn.rcpt
  split
  · exact ⟨h, fun x => (by cases x), fun hl => ⟨(hp hl).1, fun x => by cases x⟩⟩
  · have hvok : live c → (judge c.trace).vOk .rcpt = true := by
      intro hl
      rcases (hp hl).1 with e | e <;> simp [J.vOk, e]
    have s1 := sess_cmd c .rcpt (c.rcptLine to) 25 h hvok
    have hany : RPhase (c.cmd .rcpt (c.rcptLine to) 25).1 false true := by
      intro hl'
      refine ⟨?_, fun x => by cases x⟩
      obtain ⟨hl, code, hj⟩ := cmd_live_after c .rcpt (c.rcptLine to) 25 h.ji hl'
      have htx := (hp hl).1
      rw [hj]; simp only [J.onReply, J.sent]; split <;> simp_all
    have hok := cmd_ok c .rcpt (c.rcptLine to) 25
    rcases hc : c.cmd .rcpt (c.rcptLine to) 25 with ⟨c2, r2⟩
    rw [hc] at s1 hok hany
    cases r2 with
    | error e => exact ⟨s1, fun x => (by cases x), hany⟩
    | ok val =>
      obtain ⟨code, text⟩ := val
      refine ⟨s1, fun _ => ?_, hany⟩
      obtain ⟨hl, hcm, hjj⟩ := hok code text h.ji rfl
      have hc2 : ok2 code = true := by
        simp only [codeMatches] at hcm
        have : code / 10 = 25 := by simpa using hcm
        simp only [ok2, Bool.and_eq_true, decide_eq_true_eq]; omega
      intro _
      obtain ⟨_, hok'⟩ := hp hl
      rw [hjj]
      simp only [J.onReply, J.sent, hc2, if_true]
      refine ⟨by simp, fun hk => ⟨(hok' hk).1, fun _ => ⟨by simp, by omega⟩⟩⟩

theorem rcptLoop_facts (esc : Bool) (rs : List Bytes) (c : Conn) (se : SendErr) (bad some : Bool)
    (h : Sess c) (hp : RPhase c (!bad) some) :
    Sess (rcptLoop esc c rs se bad).1 ∧
    RPhase (rcptLoop esc c rs se bad).1 (!(rcptLoop esc c rs se bad).2.2) (some || !rs.isEmpty) := by
  induction rs generalizing c se bad some with
  | nil => simpa [rcptLoop] using ⟨h, hp⟩
  | cons r rest ih =>
    unfold rcptLoop
    match c.rcpt (envelopeAddress r), rcpt_facts c (envelopeAddress r) (!bad) some h hp with
    | (c1, .none), ⟨s1, p1, _⟩ => simpa using ih c1 se bad true s1 (p1 rfl)
    | (c1, .some err), ⟨s1, _, p2⟩ => simpa using ih c1 _ true true s1 (by simpa using p2)

theorem data_facts (c : Conn) (h : Sess c) (hp : RcptsOk c) :
    Sess c.data.1 ∧ (c.data.2 = none → InTx c.data.1 .data) := by
  unfold Conn.data
  have hvok : live c → (judge c.trace).vOk .data = true := by
    intro hl; obtain ⟨a, b, d⟩ := hp hl; simp [J.vOk, a, b, d]
  match c.cmd .data (sb "DATA") 354, sess_cmd c .data (sb "DATA") 354 h hvok, cmd_ok_exact c .data (sb "DATA") 354 with
  | (_, .error _), s1, _ => exact ⟨s1, fun x => (by cases x)⟩
  | (_, .ok (code, text)), s1, hok =>
    refine ⟨s1, fun _ _ => ?_⟩
    rw [hok code text h.ji (by decide) rfl]; simp [J.onReply, J.sent]

theorem step_content_partial (i : Nat) (j : J) : j.step (.content i false) = j := by simp [J.step]

theorem step_content_full (i : Nat) (j : J) :
    j.step (.content i true) = { j with tx := if !j.stopped && j.tx == .data then .full else j.tx } := by
  obtain ⟨_, _, _, stopped, _, _, _, _, _⟩ := j
  cases stopped
  · simp only [J.step, Bool.false_eq_true, if_false, Bool.true_and, Bool.not_false]
    split <;> rfl
  · rfl

theorem sess_content_full (c : Conn) (i : Nat) (h : Sess c) (hp : InTx c .data) :
    Sess (c.ev (.content i true)) ∧ InTx (c.ev (.content i true)) .full := by
  have hj := (judge_ev c (.content i true)).trans (step_content_full i _)
  refine ⟨h.of_judge hj rfl rfl h.ji.stop h.ji.ready, fun hl => ?_⟩
  rw [hj]; simp [ji_not_stopped c h.ji hl, hp hl]

/-- `Between` read off the judge, for a connection that differs from a `Sess` connection in no field a
    command leaves alone -/
theorem between_of_judge {c c1 : Conn} (h : Sess c) (f : Frame c c1) (j : J) (hj : judge c1.trace = j)
    (hb : j.bad = (judge c.trace).bad) (hs : j.stopped = (judge c.trace).stopped) (hh : j.hello = (judge c.trace).hello)
    (hr : live c1 → j.greeted = true ∧ j.pending = none ∧ j.closed = false ∧ j.tx = .idle) : Between c1 :=
  ⟨h.of_judge hj hb hh (by rw [hs, f.1]; exact h.ji.stop) (fun hl => ⟨(hr hl).1, (hr hl).2.1, (hr hl).2.2.1⟩) f.2.1 f.2.2.1,
   fun hl => by rw [hj]; exact (hr hl).2.2.2⟩

theorem endData_between (c : Conn) (h : Sess c) (hp : InTx c .full) :
    Between c.endData.1 := by
  unfold Conn.endData
  split
  · rename_i ho
    exact ⟨h, fun hl => by rw [hl.1] at ho; cases ho⟩
  dsimp only
  rename_i ho
  by_cases hq : (c.srvGone || c.srvSilent) = true
  · -- nobody there: nothing is sent; the read fails at once or waits
    simp only [hq, if_true]
    have hd : Sess (c.serverTurn .eod 250).1 ∧ ¬ live (c.serverTurn .eod 250).1 := by
      have nl : ∀ c' : Conn, c'.srvGone = c.srvGone → c'.srvSilent = c.srvSilent → ¬ live c' :=
        fun c' hg hs hl => by rw [← hg, ← hs, hl.2.1, hl.2.2] at hq; cases hq
      obtain ⟨h1 | h1, _⟩ := serverTurn_dead c .eod 250 hq
      · rw [h1]; exact ⟨h, nl c rfl rfl⟩
      · rw [h1]; exact ⟨(sess_ev_neutral c _ h (fun j => step_stall j _)).1, nl _ rfl rfl⟩
    match c.serverTurn .eod 250, hd with
    | (_, .error _), ⟨a, nl⟩ => exact ⟨a, fun hl => absurd hl nl⟩
    | (_, .ok _), ⟨a, nl⟩ => exact ⟨a, fun hl => absurd hl nl⟩
  · simp only [hq, Bool.false_eq_true, if_false]
    have hgs : c.srvGone = false ∧ c.srvSilent = false := by simpa using hq
    have hl : live c := ⟨by simpa using ho, hgs.1, hgs.2⟩
    have hst := ji_not_stopped c h.ji hl
    obtain ⟨rg, rp, rc⟩ := h.ji.ready hl
    have hj1 : judge ({ c.ev .eod with inData := false } : Conn).trace = { judge c.trace with pending := some .eod } := by
      show judge (c.ev .eod).trace = _
      rw [judge_ev]; simp [J.step, hst, hp hl, h.ji.nbad]
    have f : Frame c (Conn.serverTurn { c.ev .eod with inData := false } .eod 250).1 :=
      .of_rest (l := c.logs) (serverTurn_rest _ _ _)
    have key : Between (Conn.serverTurn { c.ev .eod with inData := false } .eod 250).1 := by
      cases (serverTurn_live ({ c.ev .eod with inData := false } : Conn) .eod 250 hgs.1 hgs.2).judge (hj1 ▸ hst) with
      | reply code text _ hj _ =>
        exact between_of_judge h f { judge c.trace with tx := .idle, pending := none }
          (by rw [hj, hj1]; simp [J.onReply]) rfl rfl rfl (fun _ => ⟨rg, rfl, rc, rfl⟩)
      | garbage _ hj _ _ =>
        exact between_of_judge h f { judge c.trace with tx := .idle, pending := none }
          (by rw [hj, hj1]; simp [J.onReply]) rfl rfl rfl (fun _ => ⟨rg, rfl, rc, rfl⟩)
      | drop _ hj h3 =>
        exact between_of_judge h f { judge c.trace with closed := true, pending := none }
          (by rw [hj, hj1]) rfl rfl rfl (fun hl' => by rw [hl'.2.1] at h3; cases h3)
      | stall _ hj h3 =>
        exact between_of_judge h f { judge c.trace with pending := some .eod }
          (by rw [hj, hj1]) rfl rfl rfl (fun hl' => by rw [hl'.2.2] at h3; cases h3)
    match Conn.serverTurn { c.ev .eod with inData := false } .eod 250, key with
    | (_, .error _), key => exact key
    | (_, .ok _), key => exact key

theorem abortTx_between (c : Conn) (se : SendErr) (h : Sess c) : Between (abortTx c se).1 := by
  unfold abortTx
  match c.reset, reset_facts c h with
  | (c1, some _), ⟨a, _⟩ => exact a.between_close
  | (_, none), ⟨a, d⟩ => exact ⟨a, d rfl⟩

theorem sendOne_between (cfg : SendCfg) (c : Conn) (idx : Nat) (m : MsgIn) (wd : Bool) (h : Between c) :
    Between (sendOne cfg c idx m wd).1 :=
  have k := between_kept.toCmdKept
  sendOne_outline (P := Between) (A := Sess) (M := fun c => Sess c ∧ RPhase c true false)
    (R := fun c => Sess c ∧ RcptsOk c) (D := fun c => Sess c ∧ InTx c .data) (E := Between) (F := Between)
    (Q := fun r => Between r.1) cfg idx m wd
    (ext := fun s h => k.extension s h)
    (dsn := fun _ h => between_of_eq _ _ h rfl)
    (early := id)
    (mail := fun a h =>
      have h4 := mail_facts _ a h.sess h.idle
      -- `dsnrntype` is read by neither `Sess` nor `RPhase`
      ⟨fun _ _ => h4.1, fun he => ⟨h4.1.of_eq rfl, h4.2 he⟩⟩)
    (abort := fun se h => abortTx_between _ se h)
    (rcpts := fun esc se hne h =>
      have h6 := rcptLoop_facts esc m.rcpts _ se false false h.1 h.2
      -- no recipient was refused and the list is not empty: at least one was accepted
      ⟨fun _ => h6.1, fun hb => ⟨h6.1, fun hl =>
        have hr := (h6.2 hl).2 (by simp [hb])
        have ht := hr.2 (by simp [hne])
        ⟨ht.1, ht.2, hr.1⟩⟩⟩)
    (data := fun h => have h7 := data_facts _ h.1 h.2; ⟨fun _ _ => h7.1, fun he => ⟨h7.1, h7.2 he⟩⟩)
    (renderFails := fun h => (sess_ev_neutral _ (.content idx false) h.1 (step_content_partial _)).1.between_close)
    (writeBlocks := fun h => (sess_ev_neutral _ (.stall _)
      (sess_ev_neutral _ (.content idx false) h.1 (step_content_partial _)).1 (fun j => step_stall j _)).1.between_close)
    (eod := fun h =>
      have h8 := endData_between _ (sess_content_full _ idx h.1 h.2).1 (sess_content_full _ idx h.1 h.2).2
      ⟨fun _ _ => h8, fun _ => h8⟩)
    (exitFail := fun _ h => h)
    (exitOk := fun _ h _ => k.resetWith cfg h)
    h

/-- `hj0`: nothing but the connect, and markers the judge ignores (`tlsOn`, `deadline`), has happened -/
theorem greeting_between (c0 : Conn) (hj0 : judge c0.trace = { pending := some .greeting })
    (hg0 : c0.srvGone = false) (hs0 : c0.srvSilent = false) (ho0 : c0.cliOpen = true) (hd0 : c0.didHello = false) :
    (∀ e, (c0.serverTurn .greeting 220).2 = .error e → Between (c0.serverTurn .greeting 220).1.close) ∧
    (∀ r, (c0.serverTurn .greeting 220).2 = .ok r → Between (c0.serverTurn .greeting 220).1) := by
  have f : Frame c0 (c0.serverTurn .greeting 220).1 := .of_rest (l := c0.logs) (serverTurn_rest _ _ _)
  have facts : (judge (c0.serverTurn .greeting 220).1.trace).bad = false ∧
      (judge (c0.serverTurn .greeting 220).1.trace).stopped = false ∧
      ∀ r, (c0.serverTurn .greeting 220).2 = .ok r → judge (c0.serverTurn .greeting 220).1.trace = { greeted := true } := by
    cases (serverTurn_live c0 .greeting 220 hg0 hs0).judge (hj0 ▸ rfl) with
    | reply code text h1 hj _ =>
      have hj : judge (c0.serverTurn .greeting 220).1.trace = { greeted := code == 220 } := by
        rw [hj, hj0]; simp [J.onReply]
      refine ⟨by rw [hj], by rw [hj], fun r hr => ?_⟩
      rw [h1] at hr
      by_cases hm : codeMatches 220 code = true
      · have hc : code = 220 := by simpa [codeMatches] using hm
        rw [hj, hc]; rfl
      · simp only [hm] at hr; cases hr
    | garbage h1 hj _ _ =>
      rw [hj, hj0]
      exact ⟨rfl, rfl, fun r hr => by rw [h1] at hr; cases hr⟩
    | drop h1 hj _ =>
      rw [hj, hj0]
      exact ⟨rfl, rfl, fun r hr => by rw [h1] at hr; cases hr⟩
    | stall h1 hj _ =>
      rw [hj, hj0]
      exact ⟨rfl, rfl, fun r hr => by rcases h1 with h1 | h1 <;> (rw [h1] at hr; cases hr)⟩
  have hst : (judge (c0.serverTurn .greeting 220).1.trace).stopped = !(c0.serverTurn .greeting 220).1.cliOpen := by
    rw [facts.2.1, f.1, ho0]; rfl
  have hh : HelloRel (c0.serverTurn .greeting 220).1 := fun a => by rw [f.2.1, hd0] at a; cases a
  exact ⟨fun _ _ => between_close_of_judge _ facts.1 hst hh,
    fun r hr => ⟨⟨⟨facts.1, hst, fun _ => by rw [facts.2.2 r hr]; exact ⟨rfl, rfl, rfl⟩⟩, hh⟩, fun _ => by rw [facts.2.2 r hr]⟩⟩

theorem between_newClient (cfg : DialCfg) (script : List Act) (caps : List Bytes) :
    Between (newClient cfg script caps).1 := by
  unfold newClient
  have g := greeting_between (freshConn cfg script caps).updateDeadline.1
    (by rw [fresh_armed]; cases cfg.implicitTLS <;> rfl) rfl rfl rfl rfl
  split
  · rename_i e h; rw [h] at g; exact g.1 e rfl
  · rename_i r h; rw [h] at g; exact g.2 r rfl

theorem between_dial (cfg : DialCfg) (script : List Act) (caps : List Bytes) : Between (dial cfg script caps).1 :=
  between_kept.dial cfg script caps (between_newClient cfg script caps)

theorem between_dialAndSend (cfg : DialCfg) (script : List Act) (caps : List Bytes) (ms : List MsgIn) :
    Between (dialAndSend cfg script caps ms).conn :=
  between_kept.dialAndSend cfg script caps ms (between_dial cfg script caps) (fun i m h => sendOne_between cfg.send _ i m false h)

theorem dialAndSend_legal (cfg : DialCfg) (script : List Act) (caps : List Bytes) (ms : List MsgIn) :
    Legal (dialAndSend cfg script caps ms).conn.trace :=
  (between_dialAndSend cfg script caps ms).sess.ji.nbad

theorem dial_legal (cfg : DialCfg) (script : List Act) (caps : List Bytes) : Legal (dial cfg script caps).1.trace :=
  (between_dial cfg script caps).sess.ji.nbad

end GoMail.Smtp
