import GoMailModel.Proofs.Exchange
import GoMailModel.Smtp.Send
/-
  The envelope as the server sees it: which RCPT command lines a run of the RCPT loop of
  Client.sendSingleMsg puts on the wire. Everything is stated over the trace (the server's view).
-/
namespace GoMail.Smtp
open GoMail

def rcptsOf (tr : List Ev) : List Bytes :=
  tr.filterMap (fun e => match e with | .cmd .rcpt l => some l | _ => none)

theorem rcptsOf_append (a b : List Ev) : rcptsOf (a ++ b) = rcptsOf a ++ rcptsOf b := by
  simp [rcptsOf, List.filterMap_append]

/-- an operation that put no RCPT line on the wire -/
def NR (c c' : Conn) : Prop := rcptsOf c'.trace = rcptsOf c.trace

theorem nr_log (c : Conn) (r : LogRec) : NR c (c.log r) := by
  unfold NR; rw [log_trace]

/-- whatever the server does in its turn is not a command -/
theorem cmd_rcpts (c : Conn) (v : Verb) (line : Bytes) (n : Nat) (hl : live c) :
    rcptsOf (c.cmd v line n).1.trace = rcptsOf c.trace ++ rcptsOf [.cmd v line] := by
  obtain ⟨e, ht, he⟩ : ∃ e, (c.cmd v line n).1.trace = (c.trace ++ [.cmd v line]) ++ [e] ∧ rcptsOf [e] = [] := by
    cases cmd_trace_live c v line n hl with
    | reply _ _ _ ht _ => exact ⟨_, ht, rfl⟩
    | garbage _ ht _ _ => exact ⟨_, ht, rfl⟩
    | drop _ ht _ => exact ⟨_, ht, rfl⟩
    | stall _ _ ht _ => exact ⟨_, ht, rfl⟩
  rw [ht, rcptsOf_append, rcptsOf_append, he, List.append_nil]

theorem rcpt_fst (c : Conn) (to : Bytes) :
    (c.rcpt to).1 = if containsCRLF to then c else (c.cmd .rcpt (c.rcptLine to) 25).1 := by
  unfold Conn.rcpt
  split
  · rfl
  · split <;> (rename_i h; rw [h])

theorem rcpt_dead (c : Conn) (to : Bytes) (h : ¬ live c) : ¬ live (c.rcpt to).1 := by
  rw [rcpt_fst]; split
  · exact h
  · exact (cmd_dead c _ _ _ h).2.1

theorem rcptLine_rcpt (c : Conn) (to a : Bytes) : (c.rcpt to).1.rcptLine a = c.rcptLine a := by
  have h : (c.rcpt to).1.ext = c.ext ∧ (c.rcpt to).1.dsnrntype = c.dsnrntype := by
    rw [rcpt_fst]; split
    · exact ⟨rfl, rfl⟩
    · exact ⟨(congrArg Conn.ext (cmd_rest c .rcpt (c.rcptLine to) 25) :), (congrArg Conn.dsnrntype (cmd_rest c .rcpt (c.rcptLine to) 25) :)⟩
  unfold Conn.rcptLine Conn.hasExt
  rw [h.1, h.2]

/-- the addresses of the list that are sent at all (Rcpt refuses the others locally) -/
def sendable (rs : List Bytes) : List Bytes := rs.filter (fun r => !containsCRLF (envelopeAddress r))

theorem rcptLoop_cons (esc : Bool) (c : Conn) (r : Bytes) (rs : List Bytes) (se : SendErr) (bad : Bool) :
    ∃ se' bad', rcptLoop esc c (r :: rs) se bad = rcptLoop esc (c.rcpt (envelopeAddress r)).1 rs se' bad' := by
  rw [rcptLoop]
  split <;> (rename_i h; rw [h]; exact ⟨_, _, rfl⟩)

theorem rcptLoop_dead (esc : Bool) (c : Conn) (rs : List Bytes) (se : SendErr) (bad : Bool) (h : ¬ live c) :
    ¬ live (rcptLoop esc c rs se bad).1 := by
  induction rs generalizing c se bad with
  | nil => exact h
  | cons r rest ih =>
    obtain ⟨se', bad', e⟩ := rcptLoop_cons esc c r rest se bad
    rw [e]
    exact ih _ _ _ (rcpt_dead c _ h)

theorem rcptLoop_wire (esc : Bool) (c : Conn) (rs : List Bytes) (se : SendErr) (bad : Bool)
    (hend : live (rcptLoop esc c rs se bad).1) :
    rcptsOf (rcptLoop esc c rs se bad).1.trace =
      rcptsOf c.trace ++ (sendable rs).map (fun r => c.rcptLine (envelopeAddress r)) := by
  induction rs generalizing c se bad with
  | nil => simp [rcptLoop, sendable]
  | cons r rest ih =>
    obtain ⟨se', bad', e⟩ := rcptLoop_cons esc c r rest se bad
    rw [e] at hend ⊢
    -- a dead connection stays dead through the rest of the loop, so it was live at this Rcpt
    have hl : live c := Classical.byContradiction fun hn => rcptLoop_dead esc _ rest se' bad' (rcpt_dead c _ hn) hend
    rw [ih _ _ _ hend, funext fun a => rcptLine_rcpt c (envelopeAddress r) (envelopeAddress a), rcpt_fst]
    unfold sendable
    cases hc : containsCRLF (envelopeAddress r)
    · rw [if_neg (by simp), cmd_rcpts c _ _ _ hl, List.filter_cons_of_pos (by simp [hc])]
      simp [rcptsOf]
    · rw [if_pos rfl, List.filter_cons_of_neg (by simp [hc])]

end GoMail.Smtp
