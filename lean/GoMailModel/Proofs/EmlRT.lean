import GoMailModel.Eml.View
import GoMailModel.Proofs.Split
/-
  The EML body logic applied to a view that matches the writer's entity tree stores exactly the
  content of that tree (Eml.effects): parts, embeds and attachments, in order, nothing added.

  In order: tables of the parser's case-insensitive comparisons on the constants the writer produces
  (`enc_cases`, `enc_default`, `disposition_table`, `multi_sub`, `ctype_facts`); what parseMultiPartHeader
  makes of the writer's header values (`pmh_part`, `pmh_plain`); one iteration of the part loop on a leaf
  (`onePart_part`: four encodings; `onePart_file`: two dispositions, three decoders) and on a nested
  multipart (`onePart_nested`); the mutual induction over the tree (`onePart_ent` / `multipart_list`); the
  two top-level forms (`parse_multipart_top`, `parse_single_top`); the stored lists read off a message
  state (`effects_xtop`, for C10). 59 is ";", 61 "=", 34 the double quote.
-/
namespace GoMail.Eml
open GoMail

theorem splitEq2_at (k v : Bytes) (h : ∀ x ∈ k, x ≠ 61) : splitEq2 (k ++ 61 :: v) = [k, v] := by
  induction k with
  | nil => simp [splitEq2]
  | cons x xs ih =>
    have hx : (x == 61) = false := by simpa using h x (by simp)
    simp only [List.cons_append, splitEq2, hx, Bool.false_eq_true, if_false]
    rw [ih (fun y hy => h y (by simp [hy]))]

theorem pmh_part (ct cs : Bytes) (h1 : ∀ b ∈ ct, b ≠ 59) (h2 : ∀ b ∈ cs, b ≠ 59) :
    parseMultiPartHeader (ct ++ sb "; charset=" ++ cs) = (ct, [(sb "charset", cs)]) := by
  have e : ct ++ sb "; charset=" ++ cs = joinWith [59] [ct, sb " charset=" ++ cs] := by
    rw [sb_ofList, sb_ofList]
    simp [joinWith]
  have hsp : ∀ b ∈ sb " charset=", b ≠ 59 := by
    rw [sb_ofList]
    decide +kernel
  have hrest : ∀ b ∈ sb " charset=" ++ cs, b ≠ 59 := List.forall_mem_append.mpr ⟨hsp, h2⟩
  rw [parseMultiPartHeader, e, splitOn_joinWith 59 _ _ (List.forall_mem_cons.mpr ⟨h1, List.forall_mem_singleton.mpr hrest⟩)]
  simp only [List.filterMap_cons, List.filterMap_nil]
  have ht : trimLeftSp (sb " charset=" ++ cs) = sb "charset" ++ 61 :: cs := by
    rw [sb_ofList, sb_ofList]
    rfl
  rw [ht, splitEq2_at _ _ (by decide +kernel)]

theorem pmh_plain (v : Bytes) (h : ∀ b ∈ v, b ≠ 59) : parseMultiPartHeader v = (v, []) := by
  rw [parseMultiPartHeader, show splitOn 59 v = [v] from splitOn_joinWith 59 v [] (List.forall_mem_singleton.mpr h)]
  rfl

theorem mem59_foldNorm (s : Bytes) : 59 ∈ s → 59 ∈ foldNorm s := by
  fun_induction foldNorm s with
  | case1 rest ih =>
    intro h
    have : 59 ∈ rest := by simpa using h
    simp [ih this]
  | case2 rest ih =>
    intro h
    have : 59 ∈ rest := by simpa using h
    simp [ih this]
  | case3 b rest _ _ ih =>
    intro h
    rcases List.mem_cons.mp h with h | h
    · subst h; simp [lowerAscii]
    · simp [ih h]
  | case4 => intro h; simp at h

/-- a label that folds to a constant without ";" has none: parseMultiPartHeader leaves it whole (`pmh_plain`);
    used for the base64 label of a file -/
theorem eqFold_no59 (s c : Bytes) (h : eqFold s c = true) (hc : ∀ b ∈ c.map lowerAscii, b ≠ 59) : ∀ b ∈ s, b ≠ 59 := by
  intro b hb hb59
  subst hb59
  have := mem59_foldNorm s hb
  unfold eqFold at h
  have h1 : foldNorm s = c.map lowerAscii := by simpa using h
  rw [h1] at this
  exact hc 59 this rfl

/-- what `s` folds to being known, a comparison of `s` is one between two constants, closed by evaluation (`enc_cases`) -/
theorem eqFold_of_eqFold {s c : Bytes} (h : eqFold s c = true) (c' : Bytes) :
    eqFold s c' = (c.map lowerAscii == c'.map lowerAscii) := by
  unfold eqFold at *
  rw [beq_iff_eq.mp h]

/-- an encoding label the writer produces folds to exactly one of the four constants: all four comparisons
    of the parser on it -/
theorem enc_cases (e : Bytes) (h : (eqFold e eQP || isB64 e || isRaw e) = true) :
    (eqFold e e7bit = true ∧ eqFold e e8bit = false ∧ eqFold e eB64 = false ∧ eqFold e eQP = false) ∨
    (eqFold e e7bit = false ∧ eqFold e e8bit = true ∧ eqFold e eB64 = false ∧ eqFold e eQP = false) ∨
    (eqFold e e7bit = false ∧ eqFold e e8bit = false ∧ eqFold e eB64 = true ∧ eqFold e eQP = false) ∨
    (eqFold e e7bit = false ∧ eqFold e e8bit = false ∧ eqFold e eB64 = false ∧ eqFold e eQP = true) := by
  simp only [isB64, isRaw, Bool.or_eq_true] at h
  rcases h with (h | h) | h | h
  all_goals
    simp only [eqFold_of_eqFold h]
    unfold e7bit e8bit eB64 eQP
    rw [sb_ofList, sb_ofList, sb_ofList, sb_ofList]
    decide +kernel

/-- the parser's default encoding, quoted-printable, as its comparisons see it -/
theorem enc_default : eqFold eQP e7bit = false ∧ eqFold eQP e8bit = false ∧ eqFold eQP eB64 = false ∧ eqFold eQP eQP = true := by
  unfold e7bit e8bit eB64 eQP
  rw [sb_ofList, sb_ofList, sb_ofList, sb_ofList]
  decide +kernel

/-- the two dispositions the writer produces, as the parser's comparison sees them -/
theorem disposition_table : lowerNorm (sb "attachment") = sb "attachment" ∧ lowerNorm (sb "inline") = sb "inline" ∧
    (sb "inline" == sb "attachment") = false := by
  rw [sb_ofList, sb_ofList]
  decide +kernel

theorem enc_7 (e : Bytes) (h : eqFold e e7bit = true) :
    eqFold e e8bit = false ∧ eqFold e eB64 = false ∧ eqFold e eQP = false := by
  simp only [eqFold_of_eqFold h]
  unfold e7bit e8bit eB64 eQP
  rw [sb_ofList, sb_ofList, sb_ofList, sb_ofList]
  decide +kernel
theorem enc_8 (e : Bytes) (h : eqFold e e8bit = true) :
    eqFold e e7bit = false ∧ eqFold e eB64 = false ∧ eqFold e eQP = false := by
  simp only [eqFold_of_eqFold h]
  unfold e7bit e8bit eB64 eQP
  rw [sb_ofList, sb_ofList, sb_ofList, sb_ofList]
  decide +kernel

/-- the state after the parser has stored `x` behind what was there -/
def ESt.add (st : ESt) (x : Stored) : ESt :=
  { st with parts := st.parts ++ x.parts, atts := st.atts ++ x.atts, embeds := st.embeds ++ x.embeds }

theorem ESt.add_add (st : ESt) (a b : Stored) : (st.add a).add b = st.add (a.append b) := by
  simp [ESt.add, Stored.append, List.append_assoc]

theorem ESt.add_empty (st : ESt) : st.add {} = st := by
  simp [ESt.add]

theorem Stored.append_empty (a : Stored) : a.append {} = a := by simp [Stored.append]
theorem Stored.empty_append (a : Stored) : Stored.append {} a = a := by simp [Stored.append]

theorem okPart_facts (p : XPart) (h : okPart p = true) :
    (p.ctype = tTextPlain ∨ p.ctype = tTextHTML) ∧ (∀ b ∈ p.charset, b ≠ 59) ∧
    (eqFold p.enc eQP || isB64 p.enc || isRaw p.enc) = true := by
  simp only [okPart, Bool.and_eq_true] at h
  refine ⟨by simpa using h.1.1, fun b hb hb59 => ?_, h.2⟩
  subst hb59
  simpa [hb] using h.1.2

theorem ctype_facts (ct : Bytes) (h : ct = tTextPlain ∨ ct = tTextHTML) :
    (∀ b ∈ ct, b ≠ 59) ∧ isRelOrAlt ct = false ∧ (eqFold ct tTextPlain || eqFold ct tTextHTML) = true := by
  unfold isRelOrAlt tRelated tAlt
  unfold tTextPlain tTextHTML at h ⊢
  rw [sb_ofList, sb_ofList] at h
  rw [sb_ofList, sb_ofList, sb_ofList, sb_ofList]
  rcases h with rfl | rfl
  · decide +kernel
  · decide +kernel

/-- a nested multipart is not stored as a body part (`goto ReadNextPart`) -/
theorem leafPart_nested (v : VEnt) (data : Bytes) (st : ESt) (h : nestedOf v.ctypes = true) :
    leafPart v data st = .ok none := by
  unfold leafPart
  match hc : v.ctypes, h with
  | [ct0], h => simp only [nestedOf] at h; simp [h]

/-- one iteration of the part loop on an entity that is not a nested multipart: a file if it has a disposition,
    otherwise a body part -/
theorem onePart_flat (v : VEnt) (st : ESt) (h : nestedOf v.ctypes = false) :
    onePart v st =
      if v.disps ≠ [] then attachEmbed v false st
      else match v.body with
        | none => .error "part-read"
        | some data => (leafPart v data st).map (·.getD st) := by
  cases v with
  | mk ctypes disps ctes cid mt cd body qp b64stream b64str kids endOk =>
  simp only [VEnt.ctypes] at h
  simp only [onePart, h, Bool.false_eq_true, if_false, VEnt.disps, VEnt.body]
  congr 1
  cases body with
  | none => rfl
  | some data =>
    simp only
    cases leafPart (.mk ctypes disps ctes cid mt cd (some data) qp b64stream b64str kids endOk) data st with
    | error e => rfl
    | ok o => cases o <;> rfl

/-- ... and on a nested multipart without a disposition: parseEMLBodyParts on it, nothing else -/
theorem onePart_nested (v : VEnt) (st : ESt) (h : nestedOf v.ctypes = true) (hd : v.disps = []) (hb : v.body.isSome = true) :
    onePart v st = bodyParts v st := by
  have hl := fun st1 => leafPart_nested v [] st1 h
  cases v with
  | mk ctypes disps ctes cid mt cd body qp b64stream b64str kids endOk =>
  simp only [VEnt.ctypes, VEnt.disps, VEnt.body] at h hd hb
  subst hd
  obtain ⟨data, rfl⟩ := Option.isSome_iff_exists.mp hb
  simp only [onePart, h, if_true, ne_eq, not_true_eq_false, if_false, bodyParts, VEnt.kids, VEnt.endOk]
  cases bodyPartsCore (.mk ctypes [] ctes cid mt cd (some data) qp b64stream b64str kids endOk) st (multipart kids endOk) with
  | error e => rfl
  | ok st1 => simp only [hl]

theorem onePart_part (p : XPart) (v : VEnt) (st : ESt) (hok : okPart p = true) (hm : matchPart p v = true) :
    onePart v st = .ok (st.add { parts := [storedPart p] }) := by
  obtain ⟨hct, hcs, henc⟩ := okPart_facts p hok
  obtain ⟨hct59, hrel, _⟩ := ctype_facts p.ctype hct
  simp only [matchPart, Bool.and_eq_true, beq_iff_eq] at hm
  obtain ⟨⟨hcty, hdisp⟩, hrest⟩ := hm
  have hpmh := pmh_part p.ctype p.charset hct59 hcs
  have hopt : optGet [(sb "charset", p.charset)] (sb "charset") = some p.charset := by simp [optGet]
  rw [onePart_flat v st (by rw [hcty, nestedOf, hpmh, hrel]), if_neg (not_not_intro hdisp)]
  simp only [leafPart, hcty, hpmh, hrel, hopt, Bool.false_eq_true, if_false]
  -- for quoted-printable mime/multipart's NextPart removes the field and decodes the body (hence `v.ctes == []` in
  -- `matchPart`); the parser then falls back to its default, which is quoted-printable
  obtain ⟨c1, c2, c3, c4⟩ := enc_default
  cases hbd : v.body with
  | none =>
    rcases enc_cases p.enc henc with ⟨h7, h8, hb, hq⟩ | ⟨h7, h8, hb, hq⟩ | ⟨h7, h8, hb, hq⟩ | ⟨h7, h8, hb, hq⟩
    all_goals simp [h7, h8, hb, hq, isB64, isRaw, hbd] at hrest
  | some data =>
    rcases enc_cases p.enc henc with ⟨h7, h8, hb, hq⟩ | ⟨h7, h8, hb, hq⟩ | ⟨h7, h8, hb, hq⟩ | ⟨h7, h8, hb, hq⟩
    all_goals
      simp only [h7, h8, hb, hq, isB64, isRaw, Bool.false_eq_true, if_false, if_true, Bool.or_false, Bool.or_true, Bool.and_eq_true,
        beq_iff_eq, hbd, Option.some.injEq, Option.isSome_some, and_true] at hrest
      simp [hrest, c1, c2, c3, c4, storedPart, encLabel, h7, h8, hb, hq, ESt.add, asRead, Except.map]

theorem onePart_file (f : XFile) (v : VEnt) (st : ESt) (hm : matchFile f v = true) :
    onePart v st = .ok (st.add (effects (.file f))) := by
  simp only [matchFile, Bool.and_eq_true, beq_iff_eq, bne_iff_ne, ne_eq, Bool.not_eq_true'] at hm
  obtain ⟨⟨⟨⟨hdisp, hcd⟩, hcid⟩, hn⟩, henc⟩ := hm
  rw [onePart_flat v st hn, if_pos hdisp]
  match hc : v.cd, hcd with
  | some c, hcd =>
  simp only [Bool.and_eq_true, beq_iff_eq] at hcd
  obtain ⟨⟨hmed, hfn⟩, hdec⟩ := hcd
  obtain ⟨n, hn'⟩ := Option.isSome_iff_exists.mp hfn
  -- ParseMediaType succeeded on Content-Disposition: name and kind come from `cd`, the hand-rolled fallback is
  -- not consulted
  have hname : fileNameAndType v = (Body.sanitizeFilename f.name, if f.attach = true then sb "attachment" else sb "inline") := by
    simp [fileNameAndType, hc, hn', hdec, hmed]
  -- what the parser reads as the file's bytes is what the view says the decoder for `f.enc` returns
  have hdata : (if eqFold (parseMultiPartHeader (v.ctes.headD [])).1 eB64 = true then v.b64stream else v.body) =
      some (asRead f.enc f.content) := by
    by_cases hq : eqFold f.enc eQP = true
    · simp only [if_pos hq, Bool.and_eq_true, beq_iff_eq] at henc
      -- no Content-Transfer-Encoding field left (NextPart removed it): the empty value is not base64
      rw [henc.1, if_neg (by decide +kernel), henc.2]
    · rw [if_neg hq, isB64] at henc
      rw [asRead, if_neg hq]
      by_cases hb : eqFold f.enc eB64 = true
      · rw [if_pos hb] at henc
        simp only [Bool.and_eq_true, beq_iff_eq] at henc
        rw [henc.1.1, List.headD_cons, pmh_plain f.enc (eqFold_no59 f.enc eB64 hb (by decide +kernel)), if_pos hb, henc.2]
      · rw [if_neg hb] at henc
        simp only [Bool.and_eq_true, beq_iff_eq, Bool.not_eq_true', List.contains_eq_mem, decide_eq_false_iff_not] at henc
        rw [henc.1.1, List.headD_cons, pmh_plain f.enc (fun b hb e => henc.1.2 (e ▸ hb)), if_neg hb, henc.2]
  obtain ⟨hl1, hl2, hl3⟩ := disposition_table
  simp only [attachEmbed, hname, Bool.false_eq_true, if_false, hdata, hcid]
  cases ha : f.attach
  · simp [hl2, hl3, effects, ha, storedFile, ESt.add]
  · simp [hl1, effects, ha, storedFile, ESt.add]

/-- the three multipart types the writer produces, as the parser's comparisons see them -/
theorem multi_sub : ∀ sub ∈ [sb "mixed", sb "related", sb "alternative"],
    (eqFold (sb "multipart/" ++ sub) tTextPlain || eqFold (sb "multipart/" ++ sub) tTextHTML) = false ∧
    (eqFold (sb "multipart/" ++ sub) tAlt || eqFold (sb "multipart/" ++ sub) tMixed || eqFold (sb "multipart/" ++ sub) tRelated) = true ∧
    isRelOrAlt (sb "multipart/" ++ sub) = (sub == sb "related" || sub == sb "alternative") := by
  unfold isRelOrAlt tTextPlain tTextHTML tAlt tMixed tRelated
  repeat rw [sb_ofList]
  decide +kernel

/-- parseEMLBodyParts on a multipart entity is the part loop over its parts -/
theorem bodyParts_multi (v : VEnt) (st : ESt) (sub : Bytes) (hsub : sub ∈ [sb "mixed", sb "related", sb "alternative"])
    (hst : v.mt.status = 0) (hmed : v.mt.mediatype = sb "multipart/" ++ sub) (hcs : v.mt.charset = none)
    (hbd : v.mt.boundary.isSome = true) (hbody : v.body.isSome = true) :
    bodyParts v st = multipart v.kids v.endOk st := by
  obtain ⟨h1, h2, _⟩ := multi_sub sub hsub
  obtain ⟨data, hdata⟩ := Option.isSome_iff_exists.mp hbody
  obtain ⟨bnd, hbnd⟩ := Option.isSome_iff_exists.mp hbd
  simp [bodyParts, bodyPartsCore, hst, hmed, hcs, hdata, hbnd, h1, h2]

mutual
theorem onePart_ent : (x : XEnt) → (v : VEnt) → (st : ESt) → okEnt x = true → matchEnt x v = true →
    onePart v st = .ok (st.add (effects x))
  | .part p, v, st, hok, hm => onePart_part p v st hok hm
  | .file f, v, st, _, hm => onePart_file f v st hm
  | .multi sub kids, v, st, hok, hm => by
    simp only [okEnt, Bool.and_eq_true, Bool.or_eq_true, beq_iff_eq] at hok
    have hsub : sub ∈ [sb "mixed", sb "related", sb "alternative"] := by simp [hok.1]
    simp only [matchEnt, Bool.and_eq_true, beq_iff_eq] at hm
    obtain ⟨⟨⟨⟨⟨⟨⟨⟨hct, hdisp⟩, hst⟩, hmed⟩, hcs⟩, hbd⟩, hbody⟩, hend⟩, hmk⟩ := hm
    have hn : nestedOf v.ctypes = true := by
      match v.ctypes, hct with
      | [ct0], hct => rw [nestedOf, beq_iff_eq.mp hct, (multi_sub sub hsub).2.2]; simpa using hok.1
    rw [onePart_nested v st hn hdisp hbody, bodyParts_multi v st sub hsub hst hmed hcs hbd hbody, hend, effects]
    exact multipart_list kids v.kids st hok.2 hmk
  termination_by structural x => x

theorem multipart_list : (xs : List XEnt) → (vs : List VEnt) → (st : ESt) → okList xs = true → matchList xs vs = true →
    multipart vs true st = .ok (st.add (effectsL xs))
  | [], [], st, _, _ => by rw [multipart, effectsL, ESt.add_empty]; rfl
  | x :: xs, v :: vs, st, hok, hm => by
    simp only [okList, matchList, Bool.and_eq_true] at hok hm
    rw [multipart, onePart_ent x v st hok.1 hm.1]
    simp only
    rw [multipart_list xs vs _ hok.2 hm.2, ESt.add_add, effectsL]
  | [], _ :: _, _, _, hm => by simp [matchList] at hm
  | _ :: _, [], _, _, hm => by simp [matchList] at hm
  termination_by structural xs => xs
end

/-- parseEMLEncoding and parseEMLContentTypeCharset touch the message's encoding and charset only -/
theorem parseBody_eq (v : VEnt) (st0 : ESt) :
    ∃ e c, parseBody v st0 = bodyParts v { st0 with enc := e, charset := c } := by
  unfold parseBody
  extract_lets cte st1 ctv st2
  obtain ⟨e, he⟩ : ∃ e, st1 = { st0 with enc := e } := by
    unfold st1
    split
    · exact ⟨st0.enc, rfl⟩
    · split
      · exact ⟨_, rfl⟩
      · split <;> exact ⟨_, rfl⟩
  obtain ⟨c, hc⟩ : ∃ c, st2 = { st1 with charset := c } := by
    unfold st2
    split
    · exact ⟨st1.charset, rfl⟩
    · split
      · exact ⟨_, rfl⟩
      · exact ⟨st1.charset, rfl⟩
  exact ⟨e, c, by rw [hc, he]⟩

theorem parse_multipart_top (sub : Bytes) (kids : List XEnt) (v : VEnt) (st0 : ESt)
    (hok : okTop (.multi sub kids) = true) (hm : matchTop (.multi sub kids) v = true) :
    parseBody v st0 = .ok (st0.add (effectsL kids)) := by
  simp only [okTop, Bool.and_eq_true, Bool.or_eq_true, beq_iff_eq] at hok
  simp only [matchTop, Bool.and_eq_true, beq_iff_eq] at hm
  obtain ⟨⟨⟨⟨⟨⟨⟨⟨hcte, hct⟩, hst⟩, hmed⟩, hcs⟩, hbd⟩, hbody⟩, hend⟩, hmk⟩ := hm
  -- the message header names no transfer encoding and no charset: the body is parsed from `st0`
  have h0 : parseBody v st0 = bodyParts v st0 := by
    match hc : v.ctypes, hct with
    | [ct0], hct =>
      rw [parseBody, hcte, hc]
      simp only [List.headD_nil, List.headD_cons, beq_self_eq_true, if_true, beq_iff_eq.mp hct, ite_self]
  rw [h0, bodyParts_multi v st0 sub (by simpa [or_assoc] using hok.1) hst hmed hcs hbd hbody, hend]
  exact multipart_list kids v.kids st0 hok.2 hmk

/-- parseEMLBodyParts on a text entity is parseEMLBodyPlain under the entity's charset -/
theorem bodyParts_text (v : VEnt) (st : ESt) (ct cs data : Bytes) (hst : v.mt.status = 0) (hmed : v.mt.mediatype = ct)
    (hcs : v.mt.charset = some cs) (hbody : v.body = some data) (htext : (eqFold ct tTextPlain || eqFold ct tTextHTML) = true) :
    bodyParts v st = bodyPlain ct v data { st with charset := cs } := by
  simp [bodyParts, bodyPartsCore, hst, hmed, hcs, hbody, htext]

/-- `setBody` replaces the parts and sets charset and encoding: the conclusion is the whole state, no `ESt.add` -/
theorem parse_single_top (p : XPart) (v : VEnt) (st0 : ESt)
    (hok : okPart p = true) (hm : matchTop (.part p) v = true) :
    parseBody v st0 = .ok { st0 with charset := p.charset, enc := encLabel p.enc, parts := [storedPart p] } := by
  obtain ⟨hct, _, henc⟩ := okPart_facts p hok
  obtain ⟨_, _, hplain⟩ := ctype_facts p.ctype hct
  simp only [matchTop, Bool.and_eq_true, beq_iff_eq] at hm
  obtain ⟨⟨⟨⟨⟨⟨_, hcte⟩, hst⟩, hmed⟩, hmcs⟩, hbody⟩, hrest⟩ := hm
  obtain ⟨data, hdata⟩ := Option.isSome_iff_exists.mp hbody
  -- what the message header makes of encoding and charset does not matter: parseEMLBodyParts sets the charset
  -- again and parseEMLBodyPlain the encoding
  obtain ⟨e, c, h0⟩ := parseBody_eq v st0
  rw [h0, bodyParts_text v _ p.ctype p.charset data hst hmed hmcs hdata hplain, bodyPlain, hcte, List.headD_cons]
  have hne : (p.enc == []) = false := by
    cases h : p.enc with
    | nil => rw [h] at henc; revert henc; decide +kernel
    | cons a b => rfl
  rcases enc_cases p.enc henc with ⟨h7, h8, hb, hq⟩ | ⟨h7, h8, hb, hq⟩ | ⟨h7, h8, hb, hq⟩ | ⟨h7, h8, hb, hq⟩
  all_goals
    simp only [h7, h8, hb, hq, isB64, isRaw, Bool.false_eq_true, if_false, if_true, Bool.or_false, Bool.or_true, beq_iff_eq,
      hdata, Option.some.injEq] at hrest
    simp [hrest, h7, h8, hb, hq, hne, setBody, storedPart, encLabel, asRead]

theorem effectsL_append (a b : List XEnt) : effectsL (a ++ b) = (effectsL a).append (effectsL b) := by
  induction a with
  | nil => simp [effectsL, Stored.empty_append]
  | cons x xs ih => simp [effectsL, ih, Stored.append, List.append_assoc]

theorem effectsL_multi (sub : Bytes) (l : List XEnt) : effectsL [XEnt.multi sub l] = effectsL l := by
  simp [effectsL, effects, Stored.append_empty]

theorem effects_multi (sub : Bytes) (l : List XEnt) : effects (XEnt.multi sub l) = effectsL l := by
  simp [effects]

theorem effectsL_layer (c : Bool) (sub : Bytes) (l : List XEnt) :
    effectsL (if c then [XEnt.multi sub l] else l) = effectsL l := by
  cases c
  · rfl
  · exact effectsL_multi sub l

theorem effectsL_parts {α} (g : α → XPart) (l : List α) :
    effectsL (l.map fun a => .part (g a)) = { parts := l.map fun a => storedPart (g a) } := by
  induction l with
  | nil => rfl
  | cons x xs ih => simp [effectsL, effects, ih, Stored.append]

theorem effectsL_files {α} (g : α → XFile) (b : Bool) (hg : ∀ a, (g a).attach = b) (l : List α) :
    effectsL (l.map fun a => .file (g a)) =
      if b then { atts := l.map fun a => storedFile (g a) } else { embeds := l.map fun a => storedFile (g a) } := by
  induction l with
  | nil => cases b <;> rfl
  | cons x xs ih => cases b <;> simp_all [effectsL, effects, Stored.append]

theorem effects_xtop (s : Mime.MsgState) :
    effectsL (xtop s) = { parts := (keptParts s).map (fun p => storedPart (xPartOf s p)),
                          embeds := s.embeds.map (fun f => storedFile (xFileOf s false f)),
                          atts := s.attachments.map (fun f => storedFile (xFileOf s true f)) } := by
  simp only [xtop, effectsL_layer, effectsL_append, effectsL_parts, effectsL_files (xFileOf s false) false (fun _ => rfl),
    effectsL_files (xFileOf s true) true (fun _ => rfl)]
  simp [Stored.append]

end GoMail.Eml
