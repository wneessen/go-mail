import GoMailModel.Proofs.Kept
import GoMailModel.Proofs.SendOne
/-
  Invariant "the connection deadline is armed, no wait on a silent server happened without one, and a
  connection the client counts as not connected has been closed", preserved by every operation of the
  session model.
-/
namespace GoMail.Smtp
open GoMail

/-- The deadline is armed; no wait happened without one (C17); a connection the client counts as not
    connected has been closed (C19, `closeWith_closed_of_good`). -/
def Good (c : Conn) : Prop :=
  c.armed = true ∧ (∀ e ∈ c.trace, e ≠ .stall false) ∧ (c.isConnected = false → c.cliOpen = false)

theorem good_ev (c : Conn) (e : Ev) (h : Good c) (he : e ≠ .stall false) : Good (c.ev e) := by
  refine ⟨h.1, ?_, h.2.2⟩
  intro x hx
  rcases List.mem_append.mp hx with hx | hx
  · exact h.2.1 x hx
  · rw [List.mem_singleton.mp hx]; exact he

theorem good_kept : KeptDial Good where
  obs := Iff.rfl
  ev e hq h := good_ev _ e h (fun he => by rw [he] at hq; cases hq)
  wait h := good_ev _ _ h (by rw [h.1]; simp)
  shut h := ⟨h.1, h.2.1, fun _ => rfl⟩
  arm h := ⟨rfl, h.2.1, h.2.2⟩
  flags _ _ _ _ h := h

theorem good_endData (c : Conn) (h : Good c) : Good c.endData.1 := by
  have k := good_kept.toKept
  unfold Conn.endData
  split
  · exact h
  · simp only []
    have h0 : Good (if c.srvGone || c.srvSilent then c else { c.ev .eod with inData := false }) := by
      split
      · exact h
      · exact k.congr (good_ev c .eod h (by simp)) rfl
    match Conn.serverTurn _ .eod 250, k.serverTurn .eod 250 h0 with
    | (_, .error _), hs => exact hs
    | (_, .ok _), hs => exact hs

theorem good_sendOne (cfg : SendCfg) (c : Conn) (idx : Nat) (m : MsgIn) (wd : Bool) (h : Good c) :
    Good (sendOne cfg c idx m wd).1 :=
  have k := good_kept.toKept
  have kc := good_kept.toCmd
  sendOne_outline (P := Good) (A := Good) (M := Good) (R := Good) (D := Good) (E := Good) (F := Good)
    (Q := fun r => Good r.1) cfg idx m wd
    (ext := fun s h => kc.extension s h)
    (dsn := fun _ h => k.congr h rfl)
    (early := id)
    (mail := fun a h => ⟨fun _ _ => k.mail a h, fun _ => k.congr (k.mail a h) rfl⟩)
    (abort := fun se h => kc.abortTx se h)
    (rcpts := fun esc se _ h => ⟨fun _ => k.rcptLoop esc m.rcpts se false h, fun _ => k.rcptLoop esc m.rcpts se false h⟩)
    (data := fun h => ⟨fun _ _ => k.data h, fun _ => k.data h⟩)
    (renderFails := fun h => k.close (good_ev _ _ h (by simp)))
    -- the blocked content write: a wait under the armed deadline
    (writeBlocks := fun h => k.close (k.wait (good_ev _ _ h (by simp))))
    (eod := fun h => ⟨fun _ _ => good_endData _ (good_ev _ _ h (by simp)), fun _ => good_endData _ (good_ev _ _ h (by simp))⟩)
    (exitFail := fun _ h => h)
    (exitOk := fun _ h _ => kc.resetWith cfg h)
    h

theorem good_sendBatch (cfg : SendCfg) (c : Conn) (ms : List MsgIn) (h : Good c) : Good (sendBatch cfg c ms).1 :=
  good_kept.toCmd.sendBatch cfg (fun i m h => good_sendOne cfg _ i m false h) ms h

theorem good_dial (cfg : DialCfg) (script : List Act) (caps : List Bytes) : Good (dial cfg script caps).1 := by
  refine good_kept.dial cfg script caps ?_
  rw [fresh_armed]
  refine ⟨rfl, fun e he => ?_, fun hc => by cases hc⟩
  cases hi : cfg.implicitTLS <;> simp [hi] at he <;> rcases he with rfl | rfl | rfl <;> simp

theorem good_dialAndSend (cfg : DialCfg) (script : List Act) (caps : List Bytes) (ms : List MsgIn) :
    Good (dialAndSend cfg script caps ms).conn :=
  good_kept.toCmd.dialAndSend cfg script caps ms (good_dial cfg script caps) (fun i m h => good_sendOne cfg.send _ i m false h)

end GoMail.Smtp
