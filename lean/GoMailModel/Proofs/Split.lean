import GoMailModel.Basic.Bytes
/-
  strings.Split on one separator byte and strings.Join: each undoes the other, the pieces of a split are
  free of the separator. bytes.HasPrefix and strings.ReplaceAll over a concatenation.
-/
namespace GoMail

theorem joinWith_cons (sep a : Bytes) (l : List Bytes) (h : l ≠ []) :
    joinWith sep (a :: l) = a ++ sep ++ joinWith sep l := by
  cases l with
  | nil => exact absurd rfl h
  | cons b bs => rfl

theorem forall_mem_joinWith {P : UInt8 → Prop} (sep : Bytes) (ls : List Bytes) (hs : ∀ c ∈ sep, P c)
    (hl : ∀ l ∈ ls, ∀ c ∈ l, P c) : ∀ c ∈ joinWith sep ls, P c := by
  induction ls with
  | nil => nofun
  | cons a l ih =>
    cases l with
    | nil => exact hl a (by simp)
    | cons b bs =>
      rw [joinWith_cons _ _ _ (by simp)]
      simp only [List.forall_mem_append]
      exact ⟨⟨hl a (by simp), hs⟩, ih (fun x hx => hl x (by simp [hx]))⟩

theorem flatten_map_sep (sep : Bytes) (ws : List Bytes) (h : ws ≠ []) :
    (ws.map (sep ++ ·)).flatten = sep ++ joinWith sep ws := by
  induction ws with
  | nil => exact absurd rfl h
  | cons w rest ih =>
    cases rest with
    | nil => simp [joinWith]
    | cons w2 ws =>
      rw [List.map_cons, List.flatten_cons, ih (List.cons_ne_nil _ _), joinWith_cons _ w _ (List.cons_ne_nil _ _),
        List.append_assoc, List.append_assoc]

theorem splitOnAux_ne (sep : UInt8) (acc xs : Bytes) : splitOnAux sep acc xs ≠ [] := by
  induction xs generalizing acc with
  | nil => simp [splitOnAux]
  | cons b rest ih =>
    rw [splitOnAux]
    split
    · exact List.cons_ne_nil _ _
    · exact ih _

theorem splitOn_ne (sep : UInt8) (v : Bytes) : splitOn sep v ≠ [] := splitOnAux_ne sep [] v

theorem splitOnAux_join (sep : UInt8) (acc xs : Bytes) :
    joinWith [sep] (splitOnAux sep acc xs) = acc.reverse ++ xs := by
  induction xs generalizing acc with
  | nil => simp [splitOnAux, joinWith]
  | cons b rest ih =>
    rw [splitOnAux]
    split
    · rename_i hb
      rw [joinWith_cons _ _ _ (splitOnAux_ne sep [] rest), ih, beq_iff_eq.mp hb]
      simp
    · rw [ih]; simp

theorem joinWith_splitOn (sep : UInt8) (v : Bytes) : joinWith [sep] (splitOn sep v) = v :=
  splitOnAux_join sep [] v

theorem splitOnAux_mem (sep : UInt8) (acc xs : Bytes) (P : UInt8 → Prop)
    (hacc : ∀ b ∈ acc, P b ∧ b ≠ sep) (hxs : ∀ b ∈ xs, P b) :
    ∀ w ∈ splitOnAux sep acc xs, ∀ b ∈ w, P b ∧ b ≠ sep := by
  induction xs generalizing acc with
  | nil =>
    intro w hw b hb
    rw [splitOnAux, List.mem_singleton] at hw
    exact hacc b (List.mem_reverse.mp (hw ▸ hb))
  | cons c rest ih =>
    have hrest := fun x hx => hxs x (List.mem_cons_of_mem _ hx)
    rw [splitOnAux]
    split
    · intro w hw b hb
      rcases List.mem_cons.mp hw with rfl | hw
      · exact hacc b (List.mem_reverse.mp hb)
      · exact ih [] nofun hrest w hw b hb
    · rename_i hc
      refine ih _ (fun x hx => ?_) hrest
      rcases List.mem_cons.mp hx with rfl | hx
      · exact ⟨hxs x List.mem_cons_self, by simpa using hc⟩
      · exact hacc x hx

theorem splitOn_mem (sep : UInt8) (v : Bytes) (P : UInt8 → Prop) (hv : ∀ b ∈ v, P b) :
    ∀ w ∈ splitOn sep v, ∀ b ∈ w, P b ∧ b ≠ sep :=
  splitOnAux_mem sep [] v P nofun hv

/-- A separator-free run `a` read with `acc` pending: followed by a separator it closes the piece
    `acc.reverse ++ a` and the split starts afresh behind it; at the end of the input it is the last piece.
    One induction on `a` gives both. -/
theorem splitOnAux_piece (sep : UInt8) (acc a : Bytes) (h : ∀ x ∈ a, x ≠ sep) :
    (∀ b, splitOnAux sep acc (a ++ sep :: b) = (acc.reverse ++ a) :: splitOnAux sep [] b) ∧
    splitOnAux sep acc a = [acc.reverse ++ a] := by
  induction a generalizing acc with
  | nil => simp [splitOnAux]
  | cons x xs ih =>
    have hx : (x == sep) = false := beq_eq_false_iff_ne.mpr (h x List.mem_cons_self)
    obtain ⟨h1, h2⟩ := ih (x :: acc) fun y hy => h y (List.mem_cons_of_mem _ hy)
    simp only [List.cons_append, splitOnAux, hx, Bool.false_eq_true, if_false, h1, h2]
    simp

theorem splitOn_joinWith (sep : UInt8) (p : Bytes) (ps : List Bytes) (h : ∀ q ∈ p :: ps, ∀ x ∈ q, x ≠ sep) :
    splitOn sep (joinWith [sep] (p :: ps)) = p :: ps := by
  induction ps generalizing p with
  | nil => exact (splitOnAux_piece sep [] p (h p List.mem_cons_self)).2
  | cons q qs ih =>
    rw [joinWith_cons _ _ _ (List.cons_ne_nil _ _), List.append_assoc, splitOn]
    exact ((splitOnAux_piece sep [] p (h p List.mem_cons_self)).1 _).trans
      (congrArg _ (ih q fun r hr => h r (List.mem_cons_of_mem _ hr)))

theorem hasPrefix_append (a rest pre : Bytes) (h : pre.length ≤ a.length) :
    hasPrefix (a ++ rest) pre = hasPrefix a pre := by
  induction pre generalizing a with
  | nil => cases a <;> simp [hasPrefix]
  | cons s ss ih =>
    cases a with
    | nil => simp at h
    | cons x xs =>
      simp only [List.cons_append, hasPrefix]
      rw [ih xs (by simpa using h)]

theorem hasPrefix_self_append (sep rest : Bytes) : hasPrefix (sep ++ rest) sep = true := by
  induction sep with
  | nil => cases rest <;> simp [hasPrefix]
  | cons s ss ih => simp [hasPrefix, ih]

theorem hasPrefix_head {x : UInt8} {xs old : Bytes} (h : old.head? ≠ some x) (hne : old ≠ []) :
    hasPrefix (x :: xs) old = false := by
  cases old with
  | nil => exact absurd rfl hne
  | cons p ps =>
    have hx : x ≠ p := fun e => h (congrArg some e.symm)
    simp [hasPrefix, hx]

theorem replaceAll_skip (old new w rest : Bytes) (h : ∀ b ∈ w, old.head? ≠ some b) :
    replaceAll old new (w ++ rest) = w ++ replaceAll old new rest := by
  induction w with
  | nil => rfl
  | cons b bs ih =>
    rw [List.cons_append, replaceAll, if_neg, ih fun x hx => h x (List.mem_cons_of_mem _ hx)]
    · rfl
    · intro ⟨hne, hp⟩
      rw [hasPrefix_head (h b List.mem_cons_self) hne] at hp
      cases hp

theorem replaceAll_hit (old new rest : Bytes) (hne : old ≠ []) :
    replaceAll old new (old ++ rest) = new ++ replaceAll old new rest := by
  cases old with
  | nil => exact absurd rfl hne
  | cons p ps =>
    rw [List.cons_append, replaceAll, if_pos ⟨hne, by rw [← List.cons_append]; exact hasPrefix_self_append _ _⟩,
      ← List.cons_append, List.drop_left]

end GoMail
