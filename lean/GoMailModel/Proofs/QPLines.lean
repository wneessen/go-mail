import GoMailModel.Codec.QP
import GoMailModel.Proofs.ByteTables
/-
  Line discipline of Go's quotedprintable.Writer (byte-exact model, Codec/QP.lean), for EVERY input:
  the output is a sequence of lines of at most 76 bytes without CR or LF, each terminated by CRLF,
  followed by a last (possibly empty) unterminated line of at most 75 such bytes.
-/
namespace GoMail.QP
open GoMail

def Clean (l : Bytes) : Prop := ∀ c ∈ l, c ≠ 13 ∧ c ≠ 10

/-- flushed output: whole lines only -/
def LinesOK (o : Bytes) : Prop :=
  ∃ ls : List Bytes, o = (ls.map (· ++ [13, 10])).flatten ∧ ∀ l ∈ ls, l.length ≤ 76 ∧ Clean l

/-- Between two steps: the flushed output is whole lines; the buffered line has no CR or LF and at most
    75 = lineMaxLen - 1 bytes (one byte is kept free for the "=" of a soft break, which makes a 76-byte line). -/
def Inv (w : W) : Prop := LinesOK w.out ∧ Clean w.line ∧ w.line.length ≤ 75

theorem enc3_clean (b : UInt8) : Clean (enc3 b) := by
  have hex : ∀ n : UInt8, n.toNat < 16 → hexDigitU n ≠ 13 ∧ hexDigitU n ≠ 10 := fun n hn =>
    ⟨hexDigitU_ne hn (by decide), hexDigitU_ne hn (by decide)⟩
  simp only [Clean, enc3, List.forall_mem_cons]
  exact ⟨by decide, hex _ (shr4_lt b), hex _ (and15_lt b), nofun⟩

theorem insertCRLF_inv (w : W) (hl : LinesOK w.out) (hc : Clean w.line) (hn : w.line.length ≤ 76) :
    Inv (insertCRLF w) := by
  obtain ⟨ls, e, hall⟩ := hl
  refine ⟨⟨ls ++ [w.line], by simp [insertCRLF, flush, e], ?_⟩, nofun, by simp [insertCRLF, flush]⟩
  simp only [List.forall_mem_append, List.forall_mem_singleton]
  exact ⟨hall, hn, hc⟩

/-- The two ways the writer appends `t` to the line: as it is when it fits, behind a soft line break
    otherwise. `Inv` does not read `cr`; the argument is there so that the record updates of `write1` and
    `encode` match syntactically. -/
theorem push_inv (w : W) (t : Bytes) (cr : Bool) (h : Inv w) (ht : Clean t) :
    (w.line.length + t.length ≤ 75 → Inv { w with line := w.line ++ t, cr := cr }) ∧
    (t.length ≤ 75 →
      Inv { insertSoftLineBreak w with line := (insertSoftLineBreak w).line ++ t, cr := cr }) := by
  obtain ⟨hl, hc, hn⟩ := h
  have happ : ∀ {a : Bytes}, Clean a → Clean (a ++ t) := fun ha => List.forall_mem_append.mpr ⟨ha, ht⟩
  refine ⟨fun hfit => ⟨hl, happ hc, by simpa using hfit⟩, fun h75 => ?_⟩
  have hs : Inv (insertSoftLineBreak w) :=
    insertCRLF_inv { w with line := w.line ++ [61] } hl
      (List.forall_mem_append.mpr ⟨hc, by simp⟩) (by simp; omega)
  exact ⟨hs.1, happ hs.2.1, by simpa [insertSoftLineBreak, insertCRLF, flush] using h75⟩

theorem encode_inv (w : W) (b : UInt8) (h : Inv w) : Inv (encode w b) := by
  obtain ⟨fit, soft⟩ := push_inv w (enc3 b) w.cr h (enc3_clean b)
  unfold encode
  simp only []
  split
  · exact soft (by simp [enc3])
  · rename_i hlt
    apply fit
    simp only [lineMaxLen] at hlt
    simp only [enc3, List.length_cons, List.length_nil]
    omega

theorem checkLastByte_inv (w : W) (h : Inv w) : Inv (checkLastByte w) := by
  unfold checkLastByte
  split
  · exact h
  · split
    · obtain ⟨hl, hc, hn⟩ := h
      apply encode_inv
      exact ⟨hl, fun c hc' => hc c (List.dropLast_subset _ hc'), by simp only [List.length_dropLast]; omega⟩
    · exact h

theorem step_inv (w : W) (b : UInt8) (h : Inv w) : Inv (step w b) := by
  unfold step
  split
  · unfold write1
    split
    · split
      · exact h
      · have hw : Inv (if b == 13 then { w with cr := true } else w) := by split <;> exact h
        obtain ⟨hl, hc, hn⟩ := checkLastByte_inv _ hw
        exact insertCRLF_inv _ hl hc (by omega)
    · rename_i hnl
      simp only [Bool.or_eq_true, beq_iff_eq, not_or] at hnl
      obtain ⟨fit, soft⟩ := push_inv w [b] false h (by simpa [Clean] using ⟨hnl.2, hnl.1⟩)
      simp only []
      split
      · exact soft (by simp)
      · rename_i hlen
        have := h.2.2
        apply fit
        simp only [lineMaxLen, beq_iff_eq] at hlen
        simp only [List.length_cons, List.length_nil]
        omega
  · exact encode_inv w b h

theorem fold_inv (xs : Bytes) (w : W) (h : Inv w) : Inv (xs.foldl step w) := by
  induction xs generalizing w with
  | nil => exact h
  | cons b r ih => exact ih _ (step_inv w b h)

theorem encodeBytes_lines (xs : Bytes) :
    ∃ (ls : List Bytes) (l : Bytes), encodeBytes xs = (ls.map (· ++ [13, 10])).flatten ++ l ∧
      (∀ l ∈ ls, l.length ≤ 76 ∧ Clean l) ∧ Clean l ∧ l.length ≤ 75 := by
  have h0 : Inv ⟨[], [], false⟩ := ⟨⟨[], rfl, nofun⟩, nofun, by simp⟩
  obtain ⟨⟨ls, e, hall⟩, hc, hn⟩ := checkLastByte_inv _ (fold_inv xs _ h0)
  exact ⟨ls, _, by rw [← e]; rfl, hall, hc, hn⟩

end GoMail.QP
