import GoMailModel.Mime.Fold
import GoMailModel.Proofs.Split
/-
  msgWriter.writeHeader: the folded header is one field whose continuation lines start with a
  blank, it unfolds to exactly "key: value", and no line is longer than 76 bytes unless it is a
  single token.
-/
namespace GoMail.Fold
open GoMail

/-- what the final `strings.ReplaceAll(" \r\n", "\r\n")` looks for -/
def pat : Bytes := [32, 13, 10]

def NoSp (w : Bytes) : Prop := ∀ b ∈ w, b ≠ 32
def NoCRLF (w : Bytes) : Prop := ∀ b ∈ w, b ≠ 13 ∧ b ≠ 10

theorem replaceAll_word (w rest : Bytes) (h : NoSp w) :
    replaceAll pat crlf (w ++ rest) = w ++ replaceAll pat crlf rest :=
  replaceAll_skip pat crlf w rest fun b hb e => h b hb (Option.some.inj e).symm

theorem replaceAll_sp (rest : Bytes) (h : rest.head? ≠ some 13) :
    replaceAll pat crlf (32 :: rest) = 32 :: replaceAll pat crlf rest := by
  have hp : hasPrefix (32 :: rest) pat = false := by
    cases rest with
    | nil => rfl
    | cons b bs => simp [hasPrefix, pat, show b ≠ 13 from fun e => h (by rw [e]; rfl)]
  rw [replaceAll, if_neg (by simp [hp])]

/-- `charLength-len(val) <= 1`: the loop folds before the word -/
def brk (cl : Int) (w : Bytes) : Bool := decide (cl - w.length ≤ 1)
/-- `charLength` after the word -/
def room (cl : Int) (w : Bytes) : Int := (if brk cl w then maxHeaderLength - 3 else cl) - 1 - w.length

theorem loop_cons (w : Bytes) (ws : List Bytes) (cl : Int) :
    loop (w :: ws) cl = (if brk cl w then crlf ++ [32] else []) ++ w ++
      (if ws.isEmpty then [] else 32 :: loop ws (room cl w)) := by
  cases ws with
  | nil => simp [loop, brk]
  | cons w2 ws => simp [loop, brk, room]

/-- lines produced when the current line so far is `cur`; the current line is the last element -/
def foldLines : List Bytes → Int → Bytes → List Bytes
  | [], _, cur => [cur]
  | w :: ws, cl, cur =>
    if brk cl w then cur :: foldLines ws (room cl w) (32 :: w) else foldLines ws (room cl w) (cur ++ 32 :: w)

theorem foldLines_ne (ws : List Bytes) (cl : Int) (cur : Bytes) : foldLines ws cl cur ≠ [] := by
  induction ws generalizing cl cur with
  | nil => exact List.cons_ne_nil _ _
  | cons w ws ih =>
    rw [foldLines]
    split
    · exact List.cons_ne_nil _ _
    · exact ih _ _

/-- ReplaceAll passes over `cur` when no CR follows it -/
def Passes (cur : Bytes) : Prop :=
  ∀ rest : Bytes, rest.head? ≠ some 13 → replaceAll pat crlf (cur ++ rest) = cur ++ replaceAll pat crlf rest

theorem passes_sp_word {w : Bytes} (hs : NoSp w) (hc : NoCRLF w) : Passes (32 :: w) := by
  intro rest hr
  have hh : (w ++ rest).head? ≠ some 13 := by
    cases w with
    | nil => exact hr
    | cons b bs => exact fun e => (hc b List.mem_cons_self).1 (Option.some.inj e)
  rw [List.cons_append, replaceAll_sp _ hh, replaceAll_word w rest hs]
  rfl

theorem Passes.sp_word {cur w : Bytes} (h : Passes cur) (hs : NoSp w) (hc : NoCRLF w) : Passes (cur ++ 32 :: w) := by
  intro rest hr
  rw [List.append_assoc, h _ (by simp), passes_sp_word hs hc rest hr, List.append_assoc]

/-- what follows the current line in the buffer -/
def more (ws : List Bytes) (cl : Int) : Bytes := if ws.isEmpty then [] else 32 :: loop ws cl

/-- the ReplaceAll post-processing turns "blank, then an inserted fold" into the fold alone: the buffer
    is the CRLF-joined lines -/
theorem replace_loop (ws : List Bytes) (cl : Int) (cur : Bytes) (hc : Passes cur)
    (hsp : ∀ w ∈ ws, NoSp w) (hcr : ∀ w ∈ ws, NoCRLF w) :
    replaceAll pat crlf (cur ++ more ws cl) = joinCRLF (foldLines ws cl cur) := by
  induction ws generalizing cl cur with
  | nil =>
    show replaceAll pat crlf (cur ++ []) = _
    rw [hc [] (by simp), replaceAll, List.append_nil]; rfl
  | cons w ws ih =>
    have hw1 := hsp w List.mem_cons_self
    have hw2 := hcr w List.mem_cons_self
    have ih' := fun cur hc => ih (room cl w) cur hc (fun x hx => hsp x (List.mem_cons_of_mem _ hx))
      (fun x hx => hcr x (List.mem_cons_of_mem _ hx))
    show replaceAll pat crlf (cur ++ 32 :: loop (w :: ws) cl) = _
    rw [loop_cons, foldLines]
    split
    · -- a fold before `w`: the line ends, the next one starts with " w"
      rw [joinCRLF, joinWith_cons _ _ _ (foldLines_ne _ _ _), ← joinCRLF, ← ih' _ (passes_sp_word hw1 hw2), hc _ (by simp)]
      show cur ++ replaceAll pat crlf (pat ++ (32 :: w ++ more ws (room cl w))) = _
      rw [replaceAll_hit pat crlf _ (List.cons_ne_nil _ _)]
      simp [crlf]
    · rw [← ih' _ (hc.sp_word hw1 hw2)]
      simp [more]

/-- a line is within the limit, or it has no blank after its first byte (a single token) -/
def Bound (l : Bytes) : Prop := l.length ≤ 76 ∨ NoSp (l.drop 1)

theorem foldLines_flatten (ws : List Bytes) (cl : Int) (cur : Bytes) :
    (foldLines ws cl cur).flatten = cur ++ (ws.map ([32] ++ ·)).flatten := by
  induction ws generalizing cl cur with
  | nil => simp [foldLines]
  | cons w ws ih => rw [foldLines]; split <;> simp [ih]

theorem foldLines_head (ws : List Bytes) (cl : Int) (b : UInt8) (cur : Bytes) :
    ∃ l ls, foldLines ws cl (b :: cur) = (b :: l) :: ls := by
  induction ws generalizing cl cur with
  | nil => exact ⟨cur, [], rfl⟩
  | cons w ws ih =>
    rw [foldLines]; split
    · exact ⟨cur, _, rfl⟩
    · exact ih _ _

theorem foldLines_tail (ws : List Bytes) (cl : Int) (cur : Bytes) :
    ∀ l ∈ (foldLines ws cl cur).tail, l.head? = some 32 := by
  induction ws generalizing cl cur with
  | nil => intro l hl; cases hl
  | cons w ws ih =>
    rw [foldLines]; split
    · -- the lines after `cur` are those started with the line " w"
      obtain ⟨l0, ls, e⟩ := foldLines_head ws (room cl w) 32 w
      intro l hl
      rw [List.tail_cons, e] at hl
      rcases List.mem_cons.mp hl with rfl | hl
      · rfl
      · exact ih (room cl w) (32 :: w) l (by rw [e]; exact hl)
    · exact ih _ _

/-- 74: at the start `cur = key ++ ":"` and `cl = 76 - 2 - |key| - 2`; after a fold `cur = " " ++ w` and
    `cl = 73 - 1 - |w|`; the `+ 1` is the blank that follows `cur`. -/
theorem foldLines_bound (ws : List Bytes) (cl : Int) (cur : Bytes) (hsp : ∀ w ∈ ws, NoSp w)
    (hinv : (cur.length : Int) + 1 + cl = 74) (hcur : Bound cur) : ∀ l ∈ foldLines ws cl cur, Bound l := by
  induction ws generalizing cl cur with
  | nil => intro l hl; rw [List.mem_singleton.mp hl]; exact hcur
  | cons w ws ih =>
    have ih' := fun cur => ih (room cl w) cur fun x hx => hsp x (List.mem_cons_of_mem _ hx)
    rw [foldLines]; split
    · rename_i hb
      intro l hl
      rcases List.mem_cons.mp hl with rfl | hl
      · exact hcur
      · -- a fresh line " w": a single token, and the room is counted from the start again
        refine ih' (32 :: w) ?_ (Or.inr (hsp w List.mem_cons_self)) l hl
        simp only [room, hb, if_true, List.length_cons, maxHeaderLength]; omega
    · rename_i hb
      -- `w` went onto the current line because there was room for it
      have : ¬ cl - (w.length : Int) ≤ 1 := by simpa [brk] using hb
      refine ih' _ ?_ (Or.inl ?_)
      · simp only [room, hb, Bool.false_eq_true, if_false, List.length_append, List.length_cons]; omega
      · simp only [List.length_append, List.length_cons]; omega

theorem bufferString_structure (key : Bytes) (values : List Bytes) (hk : NoSp key)
    (hv : NoCRLF (joinValues values)) :
    ∃ lines : List Bytes, lines ≠ [] ∧ bufferString key values = joinCRLF lines ∧
      lines.flatten = key ++ [58, 32] ++ joinValues values ∧
      (∀ l ∈ lines.tail, l.head? = some 32) ∧ (∀ l ∈ lines, Bound l) := by
  have hmem : ∀ w ∈ splitOn 32 (joinValues values), ∀ b ∈ w, (b ≠ 13 ∧ b ≠ 10) ∧ b ≠ 32 :=
    splitOn_mem 32 (joinValues values) (fun b => b ≠ 13 ∧ b ≠ 10) hv
  have hne := splitOn_ne 32 (joinValues values)
  have hk58 : NoSp (key ++ [58]) := by
    intro b hb
    rcases List.mem_append.mp hb with h | h
    · exact hk b h
    · rw [List.mem_singleton.mp h]; decide
  generalize hws : splitOn 32 (joinValues values) = ws at hmem hne
  refine ⟨foldLines ws (maxHeaderLength - 2 - key.length - 2) (key ++ [58]), foldLines_ne _ _ _, ?_, ?_, foldLines_tail _ _ _, ?_⟩
  · rw [← replace_loop ws _ _ (fun rest _ => replaceAll_word _ rest hk58) (fun w hw b hb => (hmem w hw b hb).2)
      (fun w hw b hb => (hmem w hw b hb).1)]
    cases ws with
    | nil => exact absurd rfl hne
    | cons w ws =>
      -- `key ++ ": " ++ loop ws` is `(key ++ ":") ++ more ws`: the blank after the colon is the one `more` puts
      -- before the first word
      simp [bufferString, hws, more, pat, crlf]
  · rw [foldLines_flatten, flatten_map_sep [32] ws hne, ← hws, joinWith_splitOn]
    simp
  · apply foldLines_bound ws _ (key ++ [58]) (fun w hw b hb => (hmem w hw b hb).2)
    · simp only [List.length_append, List.length_cons, List.length_nil, maxHeaderLength]; omega
    · -- the first line starts with the blank-free "key:"
      right
      intro b hb
      exact hk58 b (List.mem_of_mem_drop hb)

end GoMail.Fold
