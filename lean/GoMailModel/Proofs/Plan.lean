import GoMailModel.Proofs.Exec
/-
  What the plan writer adds to a plan. `p.Adds Q p'`: the writer went from `p` to `p'` by appending
  actions that all satisfy `Q`; there is one lemma per writer primitive, for every `Q` that holds of
  the actions the primitive issues. With `Q := SinkOnly`: every action of the write plan of a message
  whose producers do not fail and whose given boundaries are valid is `SinkOnly`, so the generic
  interpreter theorems apply to every such message. (Proofs/Tree walks the same primitives with `PW.Step`,
  which tracks the bytes and the stack of open multiparts instead of a predicate on the actions.)
-/
namespace GoMail.Mime
open GoMail

def PW.Adds (Q : WAct → Prop) (p p' : PW) : Prop := ∃ Y, p'.acts = p.acts ++ Y ∧ ∀ a ∈ Y, Q a

namespace PW.Adds
variable {Q : WAct → Prop} {p q r : PW}

theorem refl (p : PW) : p.Adds Q p := ⟨[], by simp, by simp⟩

theorem trans (h1 : p.Adds Q q) (h2 : q.Adds Q r) : p.Adds Q r := by
  obtain ⟨Y1, e1, n1⟩ := h1
  obtain ⟨Y2, e2, n2⟩ := h2
  refine ⟨Y1 ++ Y2, by rw [e2, e1, List.append_assoc], ?_⟩
  intro a ha
  rcases List.mem_append.mp ha with h | h
  · exact n1 a h
  · exact n2 a h

theorem foldl {α} (f : PW → α → PW) (l : List α) (p : PW) (hf : ∀ (p : PW), ∀ x ∈ l, p.Adds Q (f p x)) :
    p.Adds Q (l.foldl f p) := by
  induction l generalizing p with
  | nil => exact refl p
  | cons x xs ih => exact trans (hf p x (by simp)) (ih (f p x) (fun p y hy => hf p y (by simp [hy])))

theorem ite {c : Prop} [Decidable c] (h1 : p.Adds Q q) (h2 : p.Adds Q r) : p.Adds Q (if c then q else r) := by
  split
  · exact h1
  · exact h2

theorem all (h : p.Adds Q q) (hp : ∀ a ∈ p.acts, Q a) : ∀ a ∈ q.acts, Q a := by
  obtain ⟨Y, e, n⟩ := h
  intro a ha
  rw [e] at ha
  rcases List.mem_append.mp ha with h | h
  · exact hp a h
  · exact n a h

end PW.Adds

section
variable {Q : WAct → Prop} (hw : ∀ b, Q (.w none b))
include hw

theorem str_adds (p : PW) (b : Bytes) : p.Adds Q (p.str b) :=
  ⟨[.w none b], rfl, List.forall_mem_singleton.mpr (hw b)⟩

theorem header_adds (p : PW) (c : Bool) (k : Bytes) (vs : List Bytes) : p.Adds Q (p.header c k vs) := by
  unfold PW.header
  exact .ite (.refl p) ⟨_, rfl, by simp [hw]⟩

theorem partHeader_adds (p : PW) (k : Bytes) (vs : List Bytes) : p.Adds Q (p.partHeader k vs) := by
  unfold PW.partHeader
  exact .ite (.foldl _ vs p (fun p v _ => str_adds hw p _)) (header_adds hw p false k vs)

theorem stopMP_adds (p : PW) : p.Adds Q p.stopMP := by
  unfold PW.stopMP
  split
  · exact .refl p
  · exact ⟨_, rfl, List.forall_mem_singleton.mpr (hw _)⟩

theorem stopMP_if_adds (c : Bool) (p : PW) : p.Adds Q (if c = true then p.stopMP else p) :=
  .ite (stopMP_adds hw p) (.refl p)

omit hw in
/-- the write of `newPart` is never empty: it ends with CRLF -/
theorem newPart_adds (p : PW) (pre : Option Bool) (hd : HeaderMap) (hpre : ∀ b, b ≠ [] → Q (.w pre b)) :
    p.Adds Q (p.newPart pre hd) := by
  unfold PW.newPart
  split
  · exact .refl p
  · exact ⟨_, rfl, List.forall_mem_singleton.mpr
      (hpre _ (List.append_ne_nil_of_right_ne_nil _ (List.cons_ne_nil _ _)))⟩

omit hw in
theorem body_adds (p : PW) (enc : EncLabel) (pr : Producer) (hb : ∀ d b, Q (.body d b pr.fails)) :
    p.Adds Q (p.body enc pr) :=
  ⟨_, rfl, List.forall_mem_singleton.mpr (hb _ _)⟩

theorem writePart_adds (p : PW) (s : MsgState) (part : Part) (hb : ∀ d b, Q (.body d b part.prod.fails)) :
    p.Adds Q (p.writePart s part) := by
  unfold PW.writePart
  refine .trans (.ite ?_ ?_) (body_adds _ _ _ hb)
  · refine .trans ?_ (str_adds hw _ _)
    refine .trans ?_ (partHeader_adds hw _ _ _)
    refine .trans ?_ (partHeader_adds hw _ _ _)
    exact .ite (.refl p) (partHeader_adds hw p _ _)
  · exact newPart_adds p none _ (fun b _ => hw b)

theorem addFile_adds (p : PW) (f : FileM) (hb : ∀ d b, Q (.body d b f.prod.fails)) : p.Adds Q (p.addFile f) := by
  unfold PW.addFile
  refine .trans (.ite ?_ ?_) (body_adds _ _ _ hb)
  · exact .trans (.foldl _ f.header p (fun p kv _ => partHeader_adds hw p _ _)) (str_adds hw _ _)
  · exact newPart_adds p none _ (fun b _ => hw b)

theorem stageHeaders_adds (s : MsgState) (p : PW) : p.Adds Q (stageHeaders s p) := by
  have hfrom : ∀ (o : Option Addr) (q : PW),
      q.Adds Q (match o with | some a => q.header true (sb "From") [a.str] | none => q) := by
    intro o q
    cases o with
    | none => exact .refl q
    | some a => exact header_adds hw q _ _ _
  unfold stageHeaders
  refine .trans ?_ (.foldl _ _ _ ?_)
  · refine .trans ?_ (hfrom _ _)
    refine .trans ?_ (.foldl _ _ _ (fun p kv _ => str_adds hw p (kv.1 ++ [58, 32] ++ kv.2 ++ crlf)))
    exact .foldl _ _ p (fun p kv _ => header_adds hw p _ _ _)
  · intro p kn _
    split
    · exact header_adds hw p _ _ _
    · exact .refl p

end

theorem sinkOnly_w (b : Bytes) : SinkOnly (.w none b) := trivial

/-- the boundary handed to startMP is either absent or valid -/
def GoodGiven (b : Bytes) : Prop := b.isEmpty = true ∨ validBoundary b = true

theorem startMP_adds (p : PW) (mt given fresh : Bytes) (hg : GoodGiven given) :
    p.Adds SinkOnly (p.startMP mt given fresh).1 := by
  have hpre : ∀ b, b ≠ [] → SinkOnly (.w (if given.isEmpty then none else some (!validBoundary given)) b) := by
    intro b hb
    split
    · trivial
    · rcases hg with h | h
      · contradiction
      · exact ⟨by simp [h], hb⟩
  -- the stack is all that `startMP` changes after this write
  show p.Adds SinkOnly (if p.depth == 0 then _ else _)
  refine .ite ⟨_, rfl, List.forall_mem_singleton.mpr (hpre _ ?_)⟩ (newPart_adds p _ _ hpre)
  rw [sb_ofList]
  exact List.append_ne_nil_of_left_ne_nil (List.cons_ne_nil _ _) _

def NoFailingProducers (s : MsgState) : Prop :=
  (∀ x ∈ s.parts, x.prod.fails = false) ∧ (∀ f ∈ s.embeds, f.prod.fails = false) ∧
  (∀ f ∈ s.attachments, f.prod.fails = false)

/-- the user boundary and the cached boundaries are absent or valid -/
def GoodBoundaries (s : MsgState) : Prop :=
  GoodGiven s.boundary ∧ GoodGiven s.bMixed ∧ GoodGiven s.bRelated ∧ GoodGiven s.bAlt

theorem givenBoundary_good (s : MsgState) (p : PW) (cached : Bytes) (hb : GoodGiven s.boundary)
    (hc : GoodGiven cached) : GoodGiven (givenBoundary s p cached) := by
  unfold givenBoundary
  split
  · assumption
  · split
    · exact Or.inl rfl
    · assumption

theorem openLayer_if_adds (s : MsgState) (c : Bool) (p : PW) (mt cached fresh : Bytes)
    (hb : GoodGiven s.boundary) (hc : GoodGiven cached) :
    p.Adds SinkOnly (if c = true then openLayer s p mt cached fresh else (p, cached)).1 := by
  split
  · have hm : p.Adds SinkOnly (markUser s p) := ⟨[], by simp, by simp⟩
    have := hm.trans (startMP_adds (markUser s p) mt _ fresh (givenBoundary_good s p cached hb hc))
    unfold openLayer
    simp only []
    split
    · exact this.trans (str_adds sinkOnly_w _ _)
    · exact this
  · exact .refl p

theorem stageOpen_adds (s : MsgState) (e : Entropy) (p : PW) (hb : GoodBoundaries s) :
    p.Adds SinkOnly (stageOpen s e false p).1 := by
  obtain ⟨h0, h1, h2, h3⟩ := hb
  unfold stageOpen
  simp only [Bool.false_eq_true, if_false]
  refine .trans ?_ (openLayer_if_adds s _ _ _ _ _ h0 h3)
  refine .trans ?_ (openLayer_if_adds s _ _ _ _ _ h0 h2)
  exact openLayer_if_adds s _ _ _ _ _ h0 h1

theorem stageContent_adds (s : MsgState) (p : PW) (embeds attachments : List FileM)
    (hp : ∀ x ∈ s.parts, x.prod.fails = false) (he : ∀ f ∈ embeds, f.prod.fails = false)
    (ha : ∀ f ∈ attachments, f.prod.fails = false) :
    p.Adds SinkOnly (stageContent s false p embeds attachments) := by
  have files : ∀ (l : List FileM) (q : PW), (∀ f ∈ l, f.prod.fails = false) →
      q.Adds SinkOnly (l.foldl PW.addFile q) :=
    fun l q hl => .foldl _ l q (fun q f hf => addFile_adds sinkOnly_w q f (fun _ _ => hl f hf))
  unfold stageContent
  simp only [Bool.false_eq_true, if_false]
  refine .trans ?_ (stopMP_if_adds sinkOnly_w _ _)
  refine .trans ?_ (files _ _ ha)
  refine .trans ?_ (stopMP_if_adds sinkOnly_w _ _)
  refine .trans ?_ (files _ _ he)
  refine .trans ?_ (stopMP_if_adds sinkOnly_w _ _)
  refine .foldl _ _ p ?_
  intro q x hx
  exact writePart_adds sinkOnly_w q s x (fun _ _ => hp x (List.mem_filter.mp hx).1)

theorem writeMsg_sinkOnly (s : MsgState) (e : Entropy) (hp : NoFailingProducers s) (hb : GoodBoundaries s) :
    ∀ a ∈ (writeMsg s e false false).1.acts, SinkOnly a := by
  obtain ⟨p1, p2, p3⟩ := hp
  have cached : ∀ (s' : MsgState) (a : Bool) (l : List FileM), (∀ f ∈ l, f.prod.fails = false) →
      ∀ f ∈ l.map (fileHeaders s' a), f.prod.fails = false := by
    intro s' a l hl f hf
    obtain ⟨g, hg, rfl⟩ := List.mem_map.mp hf
    rw [fileHeaders_prod]
    exact hl g hg
  have h1 := (stageHeaders_adds sinkOnly_w (defaultHeaders s e) { rawPartHeaders := false }).trans
    (stageOpen_adds (defaultHeaders s e) e _ hb)
  refine PW.Adds.all (h1.trans ?_) (by simp)
  unfold writeMsg
  apply stageContent_adds
  · exact p1
  · exact cached _ _ _ p2
  · exact cached _ _ _ p3

end GoMail.Mime
