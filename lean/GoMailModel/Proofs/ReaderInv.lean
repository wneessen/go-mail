import GoMailModel.Mime.Reader
import GoMailModel.Proofs.Split
import GoMailModel.Proofs.Tree
/-
  The RFC 2046 splitter inverts the framing the writer produces, provided the delimiter does not occur
  inside a part ("freshness": the boundary was chosen so that it does not appear in the content).
-/
namespace GoMail.Reader
open GoMail

/-- no occurrence of `sep` starts inside `p` when `p` is followed by `sep` -/
def Fresh (sep p : Bytes) : Prop := ∀ i, i < p.length → hasPrefix ((p ++ sep).drop i) sep = false
/-- `sep` occurs nowhere in `t` -/
def NoSep (sep t : Bytes) : Prop := ∀ i, hasPrefix (t.drop i) sep = false

theorem splitSub_skip (sep acc xs rest : Bytes) :
    splitSub sep acc xs.length (xs ++ rest) = splitSub sep acc 0 rest := by
  induction xs with
  | nil => rfl
  | cons x xs ih =>
    show splitSub sep acc (xs.length + 1) (x :: (xs ++ rest)) = _
    rw [splitSub]
    exact ih

theorem fresh_tail (sep : Bytes) (x : UInt8) (p : Bytes) (h : Fresh sep (x :: p)) : Fresh sep p := by
  intro i hi
  have := h (i + 1) (by simp; omega)
  simpa using this

theorem splitSub_piece (sep : Bytes) (hne : sep ≠ []) (p acc rest : Bytes) (hf : Fresh sep p) :
    splitSub sep acc 0 (p ++ sep ++ rest) = (acc ++ p) :: splitSub sep [] 0 rest := by
  induction p generalizing acc with
  | nil =>
    cases hs : sep with
    | nil => exact absurd hs hne
    | cons s ss =>
      have hp : hasPrefix ((s :: ss) ++ rest) (s :: ss) = true := hasPrefix_self_append _ _
      simp only [List.nil_append, List.cons_append, splitSub]
      simp only [List.cons_append] at hp
      simp only [hp, List.isEmpty_cons, Bool.not_false, Bool.and_self, if_true, List.length_cons, Nat.add_sub_cancel, List.append_nil]
      rw [splitSub_skip]
  | cons x p ih =>
    have h0 := hf 0 (by simp)
    simp only [List.drop_zero] at h0
    have hlen : sep.length ≤ ((x :: p) ++ sep).length := by simp only [List.length_append, List.length_cons]; omega
    have hp : hasPrefix ((x :: p) ++ sep ++ rest) sep = false := by
      rw [hasPrefix_append _ _ _ hlen]; exact h0
    simp only [List.cons_append] at hp ⊢
    simp only [splitSub, hp, Bool.false_and, Bool.false_eq_true, if_false]
    have := ih (acc ++ [x]) (fresh_tail sep x p hf)
    rw [this]
    simp

theorem splitSub_last (sep t acc : Bytes) (h : NoSep sep t) : splitSub sep acc 0 t = [acc ++ t] := by
  induction t generalizing acc with
  | nil => simp [splitSub]
  | cons x xs ih =>
    have h0 := h 0
    simp only [List.drop_zero] at h0
    simp only [splitSub, h0, Bool.false_and, Bool.false_eq_true, if_false]
    rw [ih (acc ++ [x]) (fun i => by have := h (i + 1); simpa using this)]
    simp

/-- the multipart body the writer produces for raw parts `ps`: each part behind a delimiter line, then
    the closing delimiter (this is `serList` / `closeDelim` of Proofs/Tree.lean on raw bytes) -/
def frameAux (b : Bytes) : Bool → List Bytes → Bytes
  | _, [] => []
  | nf, p :: ps => Mime.delim b nf ++ p ++ frameAux b true ps
def frame (b : Bytes) (ps : List Bytes) : Bytes := frameAux b false ps ++ Mime.closeDelim b

theorem frameAux_true (b : Bytes) (ps : List Bytes) :
    frameAux b true ps = (ps.map (fun p => dl b ++ ([13, 10] ++ p))).flatten := by
  induction ps with
  | nil => rfl
  | cons p ps ih => simp [frameAux, ih, Mime.delim, dl, crlf, List.append_assoc]

/-- with the CRLF `splitParts` puts in front, every delimiter - the first one too - is an occurrence of `dl b` -/
theorem crlf_frame (b : Bytes) (ps : List Bytes) (hne : ps ≠ []) :
    [13, 10] ++ frame b ps = (ps.map (fun p => dl b ++ ([13, 10] ++ p))).flatten ++ (dl b ++ [45, 45, 13, 10]) := by
  unfold frame
  cases ps with
  | nil => exact absurd rfl hne
  | cons p ps =>
    simp [frameAux, frameAux_true, Mime.delim, Mime.closeDelim, dl, crlf, List.append_assoc]

theorem nosep_close (b : Bytes) : NoSep (dl b) [45, 45, 13, 10] := by
  intro i
  match i with
  | 0 => simp [dl, hasPrefix]
  | 1 => simp [dl, hasPrefix]
  | 2 => simp [dl, hasPrefix]
  | 3 => simp [dl, hasPrefix]
  | n + 4 => simp [dl, hasPrefix]

theorem splitSub_pieces (sep : Bytes) (hne : sep ≠ []) (acc p : Bytes) (qs : List Bytes) (last : Bytes)
    (hp : Fresh sep p) (hqs : ∀ q ∈ qs, Fresh sep q) (hl : NoSep sep last) :
    splitSub sep acc 0 (p ++ ((qs.map (sep ++ ·)).flatten ++ (sep ++ last))) = (acc ++ p) :: (qs ++ [last]) := by
  induction qs generalizing acc p with
  | nil =>
    have := splitSub_piece sep hne p acc last hp
    simp only [List.append_assoc] at this
    simp [this, splitSub_last sep last [] hl]
  | cons q qs ih =>
    have := splitSub_piece sep hne p acc (q ++ ((qs.map (sep ++ ·)).flatten ++ (sep ++ last))) hp
    simp only [List.append_assoc] at this
    simp only [List.map_cons, List.flatten_cons, List.append_assoc]
    rw [this, ih [] q (hqs q (by simp)) (fun x hx => hqs x (by simp [hx]))]
    simp

theorem splitParts_frame (b : Bytes) (ps : List Bytes) (hne : ps ≠ []) (hf : ∀ p ∈ ps, Fresh (dl b) ([13, 10] ++ p)) :
    splitParts b (frame b ps) = some ps := by
  have hsplit := splitSub_pieces (dl b) (by simp [dl]) [] [] (ps.map (fun p => [13, 10] ++ p)) [45, 45, 13, 10]
    (fun i hi => by simp at hi) (by simpa using hf) (nosep_close b)
  simp only [List.map_map, List.nil_append] at hsplit
  -- the pieces: the empty preamble, CRLF ++ p for each part, and "--" CRLF behind the closing delimiter;
  -- the three checks of splitParts then hold by evaluation
  unfold splitParts
  rw [crlf_frame b ps hne]
  simp only [Function.comp_def] at hsplit ⊢
  rw [hsplit]
  simp [hasPrefix, Function.comp_def]

theorem serList_frameAux (b : Bytes) (nf : Bool) (cs : List Mime.Ent) :
    Mime.serList b nf cs = frameAux b nf (cs.map Mime.Ent.ser) := by
  induction cs generalizing nf with
  | nil => simp [Mime.serList, frameAux]
  | cons c cs ih => simp [Mime.serList, frameAux, ih]

/-- `Fresh` as a Boolean, for evaluating examples -/
def freshb (sep p : Bytes) : Bool := (List.range p.length).all (fun i => !hasPrefix ((p ++ sep).drop i) sep)

theorem fresh_of_freshb (sep p : Bytes) (h : freshb sep p = true) : Fresh sep p := by
  intro i hi
  unfold freshb at h
  have := (List.all_eq_true.mp h) i (List.mem_range.mpr hi)
  simpa using this

end GoMail.Reader
