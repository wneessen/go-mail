import GoMailModel.Mime.Addr
import GoMailModel.Proofs.EncodedWord
/-
  The quoted-string reader undoes the escaping of a display name (`readQuoted_escape`; with it C02's
  `format_name_roundtrip`); the class of bytes a B encoded-word with charset utf-8 is made of (`BWordByte`, for
  C02's `address_phrase_safe`).
-/
namespace GoMail.Addr
open GoMail

theorem escapeName_cons (b : UInt8) (r : Bytes) : escapeName (b :: r) = escByte b ++ escapeName r := by
  simp [escapeName]

theorem readQuoted_lit (b : UInt8) (rest : Bytes) (h1 : b ≠ 34) (h2 : b ≠ 92) :
    readQuoted (b :: rest) = (readQuoted rest).map (fun (c, r) => (b :: c, r)) := by
  rw [readQuoted.eq_def]
  split
  · rename_i heq; cases heq
  · rename_i heq; simp only [List.cons.injEq] at heq; exact absurd heq.1 h1
  · rename_i heq; simp only [List.cons.injEq] at heq; exact absurd heq.1 h2
  · rename_i heq; simp only [List.cons.injEq] at heq; exact absurd heq.1 h2
  · rename_i heq
    simp only [List.cons.injEq] at heq
    obtain ⟨hb, hr⟩ := heq
    subst hb; subst hr; rfl

theorem readQuoted_escape (name rest : Bytes) :
    readQuoted (escapeName name ++ 34 :: rest) = some (name, rest) := by
  induction name with
  | nil => simp [escapeName, readQuoted]
  | cons b r ih =>
    rw [escapeName_cons, List.append_assoc]
    by_cases h92 : b = 92
    · subst h92
      have : escByte 92 = [92, 92] := by decide
      rw [this]
      simp only [List.cons_append, List.nil_append]
      rw [readQuoted, ih]; rfl
    · by_cases h34 : b = 34
      · subst h34
        have : escByte 34 = [92, 34] := by decide
        rw [this]
        simp only [List.cons_append, List.nil_append]
        rw [readQuoted, ih]; rfl
      · have : escByte b = [b] := by simp [escByte, h92, h34]
        rw [this]
        simp only [List.cons_append, List.nil_append]
        rw [readQuoted_lit b _ h34 h92, ih]; rfl

open EncodedWord

/-- The bytes of `=?utf-8?b?` … `?=` and the blank between two words: the base64 alphabet with "=" (which
    also holds the letters of the label and the "b"), "?", the blank, and the "-" of the label. -/
def BWordByte (c : UInt8) : Prop := Base64.isAlpha c = true ∨ c = 63 ∨ c = 32 ∨ c = 45

instance (c : UInt8) : Decidable (BWordByte c) := by unfold BWordByte; exact inferInstance

theorem addressString_std (name std spec : Bytes) (h : (name.contains 92 && needsEncoding name) = false) :
    addressString name std spec = std := by
  unfold addressString; rw [if_neg (by rw [h]; exact Bool.false_ne_true)]

end GoMail.Addr
