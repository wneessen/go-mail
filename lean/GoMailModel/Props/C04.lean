import GoMailModel.Proofs.LegalSend
/-
  C04 — The SMTP dialogue stays legal and in step under every reply script.
  The session-level theorem: the event trace of DialAndSend (and of DialWithContext) is accepted by
  the RFC 5321 reference automaton `Smtp.judge` (Smtp/Judge.lean: 60 lines, the Lean twin of the
  harness judge in oracle_smtp.go) for EVERY configuration, server script, capability list and batch -
  `session_is_legal`. Then the local facts about ESMTP parameters. Each run also feeds the traces of
  the real client to both judges (Lean and Go) and compares their verdicts.
-/
namespace GoMail.Props.C04
open GoMail GoMail.Smtp

/-- An 8bit message is refused locally when the (already negotiated) extension set lacks 8BITMIME:
    nothing is sent, the connection state is unchanged, the message carries the error. -/
theorem eightbit_refused_locally (cfg : SendCfg) (c : Conn) (idx : Nat) (m : MsgIn) (wd : Bool)
    (hh : c.didHello = true) (he : c.helloErr = none) (h8 : m.eightBit = true) (hx : c.hasExt "8BITMIME" = false) :
    (sendOne cfg c idx m wd).1 = c ∧ (sendOne cfg c idx m wd).2.err = some { reason := .noUnencoded, nerrs := 0 } := by
  have hext : ∀ k, c.extension k = (c, c.hasExt k) := by
    intro k; unfold Conn.extension Conn.hello; simp [hh, he]
  unfold sendOne
  simp [hext, h8, hx]

/-- ESMTP parameters on MAIL only for advertised extensions: without 8BITMIME, SMTPUTF8 and DSN in
    the latest EHLO reply (or after a HELO fallback, where no extension is known) the command is the
    bare `MAIL FROM:<path>`; each parameter appears only with its extension. -/
theorem mail_line_parameters (c : Conn) (sender : Bytes) :
    c.mailLine sender = sb "MAIL FROM:<" ++ sender ++ sb ">" ++
      (if c.hasExt "8BITMIME" then sb " BODY=8BITMIME" else []) ++
      (if c.hasExt "SMTPUTF8" then sb " SMTPUTF8" else []) ++
      (if c.hasExt "DSN" && !c.dsnmrtype.isEmpty then sb " RET=" ++ c.dsnmrtype else []) := rfl

theorem mail_without_extensions_is_bare (c : Conn) (sender : Bytes)
    (h8 : c.hasExt "8BITMIME" = false) (hu : c.hasExt "SMTPUTF8" = false) (hd : c.hasExt "DSN" = false) :
    c.mailLine sender = sb "MAIL FROM:<" ++ sender ++ sb ">" := by
  simp [Conn.mailLine, h8, hu, hd]

/-- no extension is known when the extension map is absent (HELO fallback) -/
theorem no_ext_after_helo (c : Conn) (h : c.ext = none) (k : String) : c.hasExt k = false := by
  simp [Conn.hasExt, h]

/-- RCPT carries NOTIFY only when DSN was advertised. -/
theorem rcpt_without_dsn_is_bare (c : Conn) (to : Bytes) (hd : c.hasExt "DSN" = false) :
    c.rcptLine to = sb "RCPT TO:<" ++ to ++ sb ">" := by
  simp [Conn.rcptLine, hd]

/-- a command line built from arguments that passed validateLine has no CR / LF / control byte
    (sender shown; the keywords are literals) -/
theorem mail_line_single (c : Conn) (sender : Bytes) (hs : containsCRLF sender = false)
    (hr : containsCRLF c.dsnmrtype = false) : containsCRLF (c.mailLine sender) = false := by
  unfold Conn.mailLine containsCRLF at *
  simp only [List.any_append, Bool.or_eq_false_iff]
  refine ⟨⟨⟨⟨⟨by decide +kernel, hs⟩, by decide +kernel⟩, ?_⟩, ?_⟩, ?_⟩
  · split <;> decide +kernel
  · split <;> decide +kernel
  · split
    · simp only [List.any_append, Bool.or_eq_false_iff]; exact ⟨by decide +kernel, hr⟩
    · rfl

/-- **The dialogue is legal under every reply script.** For every configuration (TLS policy, auth type,
    HELO name, DSN options, NOOP check on or off), every server script - any mix of expected replies,
    4yz, 5yz, bytes that are no reply, disconnects and stalls at any position -, every capability list
    and every batch of messages, the commands DialAndSend emits form a legal RFC 5321 session:
    nothing before the 220 greeting; MAIL only after an accepted EHLO/HELO and outside an open
    transaction; RCPT only after an accepted MAIL; DATA only when at least one recipient of the
    message was accepted and none was refused; the end-of-data marker only after 354; STARTTLS and
    AUTH only outside a transaction; no command while a reply is outstanding (in step), none after the
    server closed the connection. After a failed message the next one starts with no transaction open
    or the connection is closed (that is the invariant `Between` the proof carries). -/
theorem session_is_legal (cfg : DialCfg) (script : List Act) (caps : List Bytes) (ms : List MsgIn) :
    Legal (dialAndSend cfg script caps ms).conn.trace ∧ Legal (dial cfg script caps).1.trace :=
  ⟨dialAndSend_legal cfg script caps ms, dial_legal cfg script caps⟩

/-- the judge is not vacuous: it rejects MAIL inside an open transaction, DATA after a refused
    recipient, and a command before the greeting -/
example : (judge [.connect, .reply 220, .cmd .ehlo [], .reply 250, .cmd .mail [], .reply 250, .cmd .mail []]).bad = true := by decide +kernel
example : (judge [.connect, .reply 220, .cmd .ehlo [], .reply 250, .cmd .mail [], .reply 250, .cmd .rcpt [], .reply 550,
    .cmd .rcpt [], .reply 250, .cmd .data []]).bad = true := by decide +kernel
example : (judge [.connect, .cmd .ehlo []]).bad = true := by decide +kernel
example : (judge [.connect, .reply 220, .cmd .ehlo [], .reply 250, .cmd .mail [], .reply 250, .cmd .rcpt [], .reply 250,
    .cmd .data [], .reply 354, .content 0 true, .eod, .reply 250, .cmd .rset [], .reply 250, .cmd .quit [], .reply 221, .close]).bad = false := by decide +kernel
/-- ... and the end-of-data marker behind a rendering that failed half-way -/
example : (judge [.connect, .reply 220, .cmd .ehlo [], .reply 250, .cmd .mail [], .reply 250, .cmd .rcpt [], .reply 250,
    .cmd .data [], .reply 354, .content 0 false, .eod]).bad = true := by decide +kernel

end GoMail.Props.C04
