import GoMailModel.Proofs.EncodedWord
import GoMailModel.Proofs.Fold
import GoMailModel.Mime.Render
import GoMailModel.Proofs.Addr
import GoMailModel.Proofs.EncodedWordRT
/-
  C02 — No caller-supplied text can alter the header block.
  Core: whatever bytes a caller passes to a text-accepting setter, the stored header value is
  printable ASCII / TAB (never CR or LF), and writeHeader turns such values into exactly one field.
-/
namespace GoMail.Props.C02
open GoMail GoMail.Mime GoMail.EncodedWord

/-- Msg.encodeString (SetGenHeader, Subject, Organization, User-Agent, ...): for EVERY input byte
    string the stored value contains nothing but printable ASCII and TAB. -/
theorem stored_value_safe (s : MsgState) (raw : Bytes) (hcs : AllSafe s.charset) :
    AllSafe (encodeString s raw) :=
  wordEncode_safe _ _ _ hcs

theorem stored_value_no_crlf (s : MsgState) (raw : Bytes) (hcs : AllSafe s.charset) :
    ∀ b ∈ encodeString s raw, b ≠ 13 ∧ b ≠ 10 :=
  wordEncode_no_crlf _ _ _ hcs

/-- the same encoder is applied to file names, file descriptions and part descriptions (addFiles,
    writePart): the parameter text of every synthesised part header is CR/LF-free as well -/
theorem part_text_no_crlf (enc : EncLabel) (charset raw : Bytes) (hcs : AllSafe charset) :
    ∀ b ∈ wordEncode (encoderOf enc) charset raw, b ≠ 13 ∧ b ≠ 10 :=
  wordEncode_no_crlf _ _ _ hcs

/-- **Each free-text value decodes to the string that was set.** What Msg.encodeString stores for a
    subject, a generic header value, an organisation, a user agent, a description or a (sanitised) file
    name is either the value itself - when it consists of printable ASCII and TAB only - or a sequence
    of RFC 2047 encoded-words which an RFC 2047 reader written from the grammar
    (Codec/EncodedWordDec.lean: "Q" and "B", adjacent words joined) decodes to exactly the bytes that
    were set: for EVERY byte string, both encodings, however the encoder splits the text into words,
    every charset label without '?'. (The other case, a printable value that itself looks like an
    encoded-word, is the known finding c02-encoded-word-lookalike.) -/
theorem stored_value_decodes (e : Enc) (charset raw : Bytes) (hcs : ∀ c ∈ charset, c ≠ 63) :
    (needsEncoding raw = true → decodeWords (wordEncode e charset raw) = some raw) ∧
    (needsEncoding raw = false → wordEncode e charset raw = raw) := by
  constructor
  · intro h
    unfold wordEncode
    rw [if_pos h]
    exact decodeWords_encodeWord e charset raw hcs
  · intro h
    unfold wordEncode
    simp [h]

/-- non-vacuity: a subject that needs two encoded-words -/
example : decodeWords (wordEncode .q (sb "UTF-8") (sb "Grüße aus Köln, Grüße aus Köln, Grüße aus Köln, Grüße aus Köln")) =
    some (sb "Grüße aus Köln, Grüße aus Köln, Grüße aus Köln, Grüße aus Köln") :=
  (stored_value_decodes .q (sb "UTF-8") _ (by decide +kernel)).1 (by rw [sb_ofList]; decide +kernel)

theorem sanitize_byte : ∀ b : UInt8,
    let c := Body.sanitizeByte b
    32 ≤ c ∧ c ≠ 127 ∧ c ≠ 34 ∧ c ≠ 92 ∧ c ≠ 47 ∧ c ≠ 58 ∧ c ≠ 60 ∧ c ≠ 62 ∧ c ≠ 63 ∧ c ≠ 124 := by
  intro b
  dsimp only [Body.sanitizeByte]
  split
  · decide
  · rename_i h
    -- a byte that is kept fails the test, so it is none of the bytes at which the test succeeds
    have ne : ∀ k : UInt8, (decide (k.toNat < Generated.sanitizeBelow) || Generated.sanitizeSet.contains k.toNat) = true →
        b ≠ k := fun k hk e => h (e ▸ hk)
    have lo : ¬ b.toNat < 32 := fun hlt => h (by simp [Generated.sanitizeBelow, hlt])
    exact ⟨UInt8.le_iff_toNat_le.mpr (Nat.le_of_not_lt lo), ne 127 (by decide), ne 34 (by decide), ne 92 (by decide),
      ne 47 (by decide), ne 58 (by decide), ne 60 (by decide), ne 62 (by decide), ne 63 (by decide), ne 124 (by decide)⟩

/-- sanitizeFilename (byte set regenerated from the source): no control character, quote, backslash
    or path character survives, for every file name -/
theorem sanitized_name (name : Bytes) :
    ∀ c ∈ Body.sanitizeFilename name, 32 ≤ c ∧ c ≠ 127 ∧ c ≠ 34 ∧ c ≠ 92 ∧ c ≠ 47 := by
  intro c hc
  obtain ⟨b, _, rfl⟩ := List.mem_map.mp hc
  have := sanitize_byte b
  exact ⟨this.1, this.2.1, this.2.2.1, this.2.2.2.1, this.2.2.2.2.1⟩

theorem joinValues_no_crlf (values : List Bytes) (h : ∀ v ∈ values, ∀ b ∈ v, b ≠ 13 ∧ b ≠ 10) :
    Fold.NoCRLF (Fold.joinValues values) :=
  forall_mem_joinWith _ values (by decide) h

/-- No header injection through generic header values: for ANY raw values, the bytes writeHeader
    emits for the stored (encoded) values are CRLF-joined lines whose continuation lines all start
    with a blank — a strict RFC 5322 reader sees exactly one field named `key` — and removing the
    folds gives back "key: v1, v2, ..." of the stored values. -/
theorem one_field_per_header (s : MsgState) (key : Bytes) (raw : List Bytes)
    (hk : Fold.NoSp key) (hcs : AllSafe s.charset) :
    ∃ lines : List Bytes, lines ≠ [] ∧
      Fold.bufferString key (raw.map (encodeString s)) = joinCRLF lines ∧
      lines.flatten = key ++ [58, 32] ++ Fold.joinValues (raw.map (encodeString s)) ∧
      (∀ l ∈ lines.tail, l.head? = some 32) := by
  have hv : Fold.NoCRLF (Fold.joinValues (raw.map (encodeString s))) := by
    apply joinValues_no_crlf
    intro v hv
    obtain ⟨r, _, rfl⟩ := List.mem_map.mp hv
    exact stored_value_no_crlf s r hcs
  obtain ⟨lines, h1, h2, h3, h4, _⟩ := Fold.bufferString_structure key _ hk hv
  exact ⟨lines, h1, h2, h3, h4⟩

/-- Display names set through the *Format helpers: the name-addr that formatAddress hands to the
    address parser reads back (RFC 5322 quoted-string: `\\x` is x, an unescaped quote ends it) to
    exactly the name and the address that were given — for EVERY name, whatever quotes, backslashes,
    angle brackets or commas it contains. A name can therefore never smuggle a second address. -/
theorem format_name_roundtrip (name addr : Bytes) :
    Addr.readNameAddr (Addr.formatAddress name addr) = some (name, addr) := by
  unfold Addr.formatAddress Addr.readNameAddr
  simp only [List.cons_append, List.nil_append, List.append_assoc]
  rw [Addr.readQuoted_escape]
  simp

/-- Rendering of an address whose display name has a backslash and needs RFC 2047 encoding: the
    phrase consists of B encoded-words made of phrase-safe bytes only (no backslash, quote, angle
    bracket, parenthesis, comma, colon, semicolon, at-sign, CR, LF); every other address is rendered by
    net/mail's Address.String (taken as given). -/
theorem address_phrase_safe (name std spec : Bytes)
    (h : (name.contains 92 && EncodedWord.needsEncoding name) = true) :
    ∃ phrase, Addr.addressString name std spec = phrase ++ [32] ++ spec ∧
      ∀ c ∈ phrase, c ≠ 92 ∧ c ≠ 34 ∧ c ≠ 60 ∧ c ≠ 62 ∧ c ≠ 40 ∧ c ≠ 41 ∧ c ≠ 44 ∧ c ≠ 59 ∧ c ≠ 58 ∧ c ≠ 64 ∧ c ≠ 13 ∧ c ≠ 10 := by
  refine ⟨wordEncode .b (sb "utf-8") name, by unfold Addr.addressString; rw [if_pos h], ?_⟩
  have hn : needsEncoding name = true := by
    simp only [Bool.and_eq_true] at h; exact h.2
  intro c hc
  rw [wordEncode, if_pos hn] at hc
  have pw : Addr.BWordByte c :=
    encodeWord_forall (P := Addr.BWordByte) .b (sb "utf-8") name (by decide +kernel) (by decide) (fun c h => Or.inl h) c hc
  have ne := fun (k : UInt8) (hk : ¬ Addr.BWordByte k) => ne_of_class Addr.BWordByte pw hk
  exact ⟨ne 92 (by decide), ne 34 (by decide), ne 60 (by decide), ne 62 (by decide), ne 40 (by decide),
    ne 41 (by decide), ne 44 (by decide), ne 59 (by decide), ne 58 (by decide), ne 64 (by decide),
    ne 13 (by decide), ne 10 (by decide)⟩

/-- non-vacuity: the classic injection attempt is neutralised -/
example : Addr.readNameAddr (Addr.formatAddress (sb "a\" <evil@example.org>, \"b\\") (sb "u@example.com"))
    = some (sb "a\" <evil@example.org>, \"b\\", sb "u@example.com") := by
  repeat rw [sb_ofList]
  decide +kernel

/-- non-vacuity of the charset hypothesis -/
example : AllSafe (sb "UTF-8") := by decide +kernel

end GoMail.Props.C02
