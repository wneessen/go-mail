import GoMailModel.Props.C14
/-
  C15 — SCRAM authenticates the server.
  The unchanged code violates the property in one way that cannot be repaired without breaking the
  project's own test suite (its test server answers AUTH with a bare 235): `Next(_, more=false)`
  returns success unconditionally. That is proved here as a counterexample, recorded as a known
  finding, and the property is proved for everything else.
-/
namespace GoMail.Props.C15
open GoMail GoMail.Smtp

theorem first_reply_nonempty (env : ScramEnv) (st : ScramSt) (r : Bytes)
    (h : (scramFirst env st).2 = .ok (some r)) : r ≠ [] := by
  unfold scramFirst at h
  split at h
  · cases h
  · dsimp only at h
    -- either way the message begins with a gs2 header, "p=..." or "n,,"
    split at h
    · split at h
      · cases h
      · cases h
        exact List.append_ne_nil_of_left_ne_nil (List.append_ne_nil_of_left_ne_nil
          (List.append_ne_nil_of_left_ne_nil (sb_ne_nil _ _) _) _) _
    · cases h
      exact List.append_ne_nil_of_left_ne_nil (sb_ne_nil _ _) _

theorem serverFirst_reply_nonempty (env : ScramEnv) (st : ScramSt) (m r : Bytes)
    (h : (scramServerFirst env st m).2 = .ok (some r)) : r ≠ [] := by
  obtain ⟨woProof, hr, _⟩ := C14.scram_client_final env st _ m r (Prod.ext rfl h)
  rw [hr]
  exact List.append_ne_nil_of_left_ne_nil (List.append_ne_nil_of_right_ne_nil _ (sb_ne_nil _ _)) _

theorem serverFinal_ok (env : ScramEnv) (st : ScramSt) (m r : Bytes)
    (h : (scramServerFinal env st m).2 = .ok (some r)) :
    st.salted = true ∧ st.authMessage ≠ [] ∧ m.drop 2 = (env.crypto st.salt st.iter st.authMessage).2 := by
  unfold scramServerFinal at h
  by_cases hs : (!st.salted || st.authMessage.isEmpty) = true
  · simp [hs] at h
  · simp only [hs, if_false, Bool.false_eq_true] at h
    split at h
    · rename_i heq
      simp only [Bool.or_eq_true, Bool.not_eq_eq_eq_not, Bool.not_true, not_or] at hs
      refine ⟨by simpa using hs.1, ?_, by simpa using heq⟩
      intro hc; simp [hc] at hs
    · cases h

/-- The client acknowledges a server-final message (sends the empty response) ONLY when an exchange is
    running (a nonce-extending server-first was processed: `salted`, non-empty auth message) and the
    message carries exactly the ServerSignature computed over THIS exchange's auth message. -/
theorem ack_only_valid_signature (env : ScramEnv) (st : ScramSt) (msg : Bytes)
    (h : ((scramMech env).next st msg true).2 = .ok (some [])) :
    hasPrefix msg (sb "v=") = true ∧ st.salted = true ∧ st.authMessage ≠ [] ∧
      msg.drop 2 = (env.crypto st.salt st.iter st.authMessage).2 := by
  simp only [scramMech, if_true] at h
  by_cases he : msg.isEmpty = true
  · simp only [he, if_true] at h
    exact absurd rfl (first_reply_nonempty env _ [] h)
  · simp only [he, if_false, Bool.false_eq_true] at h
    by_cases hr : hasPrefix msg (sb "r=") = true
    · simp only [hr, if_true] at h
      exact absurd rfl (serverFirst_reply_nonempty env st msg [] h)
    · simp only [hr, if_false, Bool.false_eq_true] at h
      by_cases hv : hasPrefix msg (sb "v=") = true
      · simp only [hv, if_true] at h
        obtain ⟨a, b, c⟩ := serverFinal_ok env st msg [] h
        exact ⟨hv, a, b, c⟩
      · simp [hv] at h

/-- A server-final message before any server-first (empty state) is refused — the repaired defect. -/
theorem final_before_first_refused (env : ScramEnv) (msg : Bytes) (att : Nat) :
    ((scramMech env).next { attempt := att } (sb "v=" ++ msg) true).2 = .error errScram := by
  have hp : hasPrefix (sb "v=" ++ msg) (sb "v=") = true := hasPrefix_self_append _ _
  have hr : hasPrefix (sb "v=" ++ msg) (sb "r=") = false := by
    rw [sb_ofList, sb_ofList]
    rfl
  have he : (sb "v=" ++ msg).isEmpty = false := by
    rw [sb_ofList]
    rfl
  simp only [scramMech, if_true, he, hr, hp, Bool.false_eq_true, if_false]
  simp [scramServerFinal]

/-- **A new exchange starts from nothing.** Whatever state an earlier exchange on the same Auth value has
    left behind (a completed exchange leaves `salted`, the auth message, the nonce): after `Start`, a
    server-final message - in particular the replayed ServerSignature of that earlier exchange - is
    refused, for every state and every message. (The repaired defect `c00da92`: `Start` passed the state on.) -/
theorem replay_on_a_new_exchange_refused (env : ScramEnv) (st : ScramSt) (si : ServerInfo) (msg : Bytes) :
    ((scramMech env).next ((scramMech env).start st si).1 (sb "v=" ++ msg) true).2 = .error errScram := by
  have h : ((scramMech env).start st si).1 = { attempt := st.attempt } := rfl
  rw [h]
  exact final_before_first_refused env msg st.attempt

/-- ... and the other mechanisms: `Start` does not look at the state at all. -/
theorem start_forgets_plain (identity user pass host : Bytes) (allow : Bool) (st : Unit) (si : ServerInfo) :
    (plainMech identity user pass host allow).start st si = (plainMech identity user pass host allow).start () si := rfl
theorem start_forgets_login (user pass host : Bytes) (allow : Bool) (st : Nat) (si : ServerInfo) :
    (loginMech user pass host allow).start st si = (loginMech user pass host allow).start 0 si := rfl

/-- A server-first message whose nonce does not extend the client's nonce is refused. -/
theorem foreign_nonce_refused (env : ScramEnv) (st : ScramSt) (p0 p1 p2 : Bytes) (rest : List Bytes) (fromServer : Bytes)
    (hs : splitOnByte 44 fromServer = p0 :: p1 :: p2 :: rest)
    (hn : hasPrefix (p0.drop 2) st.nonce = false) :
    (scramServerFirst env st fromServer).2 = .error errScram := by
  rcases C14.scramServerFirst_cases env st fromServer with e | ⟨_, _, _, _, _, _, hs', hn', -⟩
  · rw [e]
  · cases hs.symm.trans hs'
    cases hn.symm.trans hn'

/-- KNOWN FINDING (c15-success-without-server-signature): a bare success reply is accepted in every
    state. `Next(_, false)` returns (nil, nil): the Auth loop ends without error although no
    ServerSignature was ever verified. -/
theorem counterexample_bare_success (env : ScramEnv) (st : ScramSt) (msg : Bytes) :
    (scramMech env).next st msg false = (st, .ok none) := rfl

end GoMail.Props.C15
