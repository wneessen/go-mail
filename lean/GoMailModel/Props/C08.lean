import GoMailModel.Proofs.Tree
/-
  C08 — S/MIME signatures verify for every message shape (PARTIAL: the cryptography is trusted).
  The logical core is that the octets handed to the signer are the first body part exactly as it is
  emitted later, one level deeper, inside multipart/signed. Proved here: the local facts this rests
  on — a body part / file rendered at the top level by the signing pre-render is byte-identical to
  the same part created by multipart.CreatePart, minus the delimiter line; a cached boundary is
  reused. The global statement is checked on every generated shape by the run (model's signed octets
  vs. the SHA-256 in the signature; independent CMS verification).
-/
namespace GoMail.Props.C08
open GoMail GoMail.Mime

/-- bytes appended to the plan by an operation -/
def added (p p' : PW) : Bytes := planBytes (p'.acts.drop p.acts.length)

theorem planBytes_append (a b : List WAct) : planBytes (a ++ b) = planBytes a ++ planBytes b :=
  Mime.planBytes_append a b

/-- msgWriter.writePartHeader in the signing pre-render writes exactly the line CreatePart writes. -/
theorem raw_part_header_line (p : PW) (key v : Bytes) (h : p.rawPartHeaders = true) :
    (p.partHeader key [v]).acts = p.acts ++ [.w none (key ++ [58, 32] ++ v ++ crlf)] := by
  simp [PW.partHeader, h, PW.str]

/-- A body part written by the signing pre-render at the top level and the same part created inside
    a multipart by CreatePart differ exactly by the delimiter line: same header lines (same order,
    unfolded), same blank line, same encoded body. -/
theorem part_toplevel_equals_nested (s : MsgState) (part : Part) (p0 p1 : PW) (b : Bytes) (last : Bool)
    (rest : List (Bytes × Bool))
    (h0 : p0.stack = []) (hr : p0.rawPartHeaders = true) (h1 : p1.stack = (b, last) :: rest) :
    planBytes ((p1.writePart s part).acts.drop p1.acts.length) =
      ((if last then crlf else []) ++ [45, 45] ++ b ++ crlf) ++
      planBytes ((p0.writePart s part).acts.drop p0.acts.length) := by
  -- either write emits the one leaf `leafOfPart s part`: in `p1` behind a delimiter line, in `p0` at the top level as CreatePart would write it
  have a1 := (writePart_emits p1 s part).added
  have a0 := (writePart_emits p0 s part).added
  rw [h1] at a1
  rw [h0, hr] at a0
  rw [a1, a0]
  simp [frame, serList, delim, serAt_true, List.append_assoc]

/-- A boundary that is cached (valid) is the boundary in effect: the final render of a signed message
    uses the inner boundaries of the pre-render, whatever the random source yields the second time. -/
theorem cached_boundary_reused (p : PW) (mt given fresh1 fresh2 : Bytes) (hv : validBoundary given = true) :
    (p.startMP mt given fresh1).2 = given ∧ (p.startMP mt given fresh2).2 = given :=
  ⟨bnd_of_valid hv fresh1, bnd_of_valid hv fresh2⟩

/-- the signature part is a base64 body of the signer's output, typed application/pkcs7-signature -/
theorem signature_part_shape : typeSMIMESigned = sb "application/pkcs7-signature; name=\"smime.p7s\"" ∧
    mimeSigned = sb "signed; protocol=\"application/pkcs7-signature\"; micalg=sha-256" := ⟨rfl, rfl⟩

/-- **Structure of the signed render.** After the message header, the final render of a signed
    message writes exactly ONE entity: multipart/signed (protocol application/pkcs7-signature,
    micalg sha-256), whose children are the message tree - alternative / related / mixed layers as the
    message needs them, the same `contentTree` the unsigned render writes - followed by the signature
    part, opened and closed with one boundary; for every message shape, header state and entropy. -/
theorem signed_render_is_tree (s : MsgState) (e : Entropy) (p : PW) (embeds attachments : List FileM) (h0 : p.stack = []) :
    (stageContent s true (stageOpen s e true p).1 embeds attachments).out =
      p.out ++ (Ent.multi mimeSigned (p.startMP mimeSigned e.bSigned e.bSigned).2
        (contentTree s (stageOpen s e true p).2.bMixed (stageOpen s e true p).2.bRelated (stageOpen s e true p).2.bAlt embeds attachments ++
          (s.parts.filter (·.smime)).map (leafOfPart s))).ser ∧
    (stageContent s true (stageOpen s e true p).1 embeds attachments).stack = [] := by
  -- the wrapper is one more layer around the message tree and the signature part
  have h : Emits p (stageContent s true (stageOpen s e true p).1 embeds attachments) _ :=
    .multi (by rw [h0]; exact startMP_str_top p mimeSigned e.bSigned e.bSigned h0)
      ((content_emits s e _ embeds attachments).trans (.foldl (fun p x => writePart_emits p s x) _ _))
  unfold Emits at h
  rw [h0] at h
  exact ⟨h.out.trans (congrArg _ (List.append_nil _)), h.stack⟩

/-- The entity that is signed and the first child of multipart/signed are serialisations of the same
    tree: inside an open multipart (here: the S/MIME wrapper) the layer and content stages write
    `serList` of `contentTree`, i.e. behind the first delimiter exactly `Ent.ser` of the tree the
    pre-render wrote at the top level (`C01.render_is_tree`), provided the two renders see the same
    parts, file headers and boundaries (`cached_boundary_reused`, C11). -/
theorem nested_content_is_tree (s : MsgState) (e : Entropy) (p0 : PW) (embeds attachments : List FileM)
    (b0 : Bytes) (l0 : Bool) (rest : List (Bytes × Bool)) (h0 : p0.stack = (b0, l0) :: rest) :
    (stageContent s false (stageOpen s e false p0).1 embeds attachments).out =
      p0.out ++ serList b0 l0 (contentTree s (stageOpen s e false p0).2.bMixed (stageOpen s e false p0).2.bRelated
        (stageOpen s e false p0).2.bAlt embeds attachments) := by
  have h := (content_emits s e p0 embeds attachments).out
  rw [h0] at h
  exact h

end GoMail.Props.C08
