import GoMailModel.Proofs.Wrap
import GoMailModel.Proofs.Fold
import GoMailModel.Proofs.QPLines
import GoMailModel.Proofs.Tree
/-
  C18 — Generated output obeys Internet-message line discipline.
  Property theorems only; helper lemmas live in GoMailModel/Proofs.
-/
namespace GoMail.Props.C18
open GoMail LineBreaker

/-- The 76-column constant the models use is the one in the source (regenerated fact). -/
theorem limits_from_source : Generated.maxBodyLength = LineBreaker.maxBody ∧
    (Generated.maxHeaderLength : Int) = Fold.maxHeaderLength := by decide

/-- base64LineBreaker: for EVERY way of splitting the encoder's output into Write calls, Close yields
    the 76-column wrapping of the concatenated data. -/
theorem linebreaker_any_chunking (chunks : List Bytes) :
    close (writeAll [] [] (by decide) chunks) = wrap76 chunks.flatten := by
  simpa using writeAll_spec [] [] (by decide) chunks

/-- ... and a carried-over partial line never breaks the termination invariant of the recursion. -/
theorem linebreaker_invariant (line out data : Bytes) (h : line.length < 76) :
    (write line out data h).line.length < 76 := write_line_lt line out data h

/-- Every base64 body the writer emits is a sequence of non-empty lines of at most 76 base64-alphabet
    characters (hence free of CR and LF), each terminated by CRLF, and the lines concatenate to the
    base64 encoding of the content. -/
theorem b64_body_lines (content : Bytes) :
    ∃ ls : List Bytes, Body.encodeBody .b64 content = (ls.map (· ++ crlf)).flatten ∧
      ls.flatten = Base64.encode content ∧
      ∀ l ∈ ls, 0 < l.length ∧ l.length ≤ 76 ∧ ∀ c ∈ l, c ≠ 13 ∧ c ≠ 10 := by
  obtain ⟨ls, h1, h2, h3⟩ := b64Body_lines content
  exact ⟨ls, h1, h2, fun l hl =>
    ⟨(h3 l hl).1, (h3 l hl).2.1, fun c hc => Base64.alpha_not_crlf c ((h3 l hl).2.2 c hc)⟩⟩

/-- Every quoted-printable body the writer emits (also for parts with an unknown encoding label):
    whole lines of at most 76 bytes free of CR and LF, each terminated by CRLF, followed by a last
    unterminated line of at most 75 such bytes — for EVERY content, whatever its line lengths,
    trailing blanks or stray CR / LF bytes. -/
theorem qp_body_lines (content : Bytes) :
    ∃ (ls : List Bytes) (last : Bytes),
      Body.encodeBody .qp content = (ls.map (· ++ [13, 10])).flatten ++ last ∧
      Body.encodeBody .other content = Body.encodeBody .qp content ∧
      (∀ l ∈ ls, l.length ≤ 76 ∧ ∀ c ∈ l, c ≠ 13 ∧ c ≠ 10) ∧
      last.length ≤ 75 ∧ ∀ c ∈ last, c ≠ 13 ∧ c ≠ 10 := by
  obtain ⟨ls, l, e, hall, hc, hn⟩ := QP.encodeBytes_lines content
  exact ⟨ls, l, e, rfl, hall, hn, hc⟩

/-- The encoded body does not depend on how the content producer chunks its writes. -/
theorem body_chunk_independent (e : Body.CTE) (chunks : List Bytes) :
    Body.encodeChunks e chunks = Body.encodeBody e chunks.flatten := rfl

/-- Header folding (writeHeader): for a blank-free key and CR/LF-free values the emitted field is a
    list of CRLF-joined lines such that (1) every continuation line starts with a blank, (2) deleting
    the CRLFs — unfolding — gives back exactly "key: v1, v2, ...", and (3) every line has at most 76
    bytes or consists of a single token without blanks. Holds for all word lengths and blank patterns. -/
theorem header_fold (key : Bytes) (values : List Bytes) (hk : Fold.NoSp key)
    (hv : Fold.NoCRLF (Fold.joinValues values)) :
    ∃ lines : List Bytes, lines ≠ [] ∧ Fold.bufferString key values = joinCRLF lines ∧
      lines.flatten = key ++ [58, 32] ++ Fold.joinValues values ∧
      (∀ l ∈ lines.tail, l.head? = some 32) ∧
      (∀ l ∈ lines, l.length ≤ 76 ∨ ∀ b ∈ l.drop 1, b ≠ 32) :=
  Fold.bufferString_structure key values hk hv

/-- non-vacuity: a 100-byte content really produces two lines -/
example : wrap76 (List.replicate 80 65) = List.replicate 76 65 ++ crlf ++ (List.replicate 4 65 ++ crlf) := by
  decide +kernel

/-- non-vacuity: 100 literal bytes give a soft-broken 76-byte line and a rest -/
example : QP.encodeBytes (List.replicate 100 65) =
    List.replicate 75 65 ++ [61, 13, 10] ++ List.replicate 25 65 := by decide +kernel

/-- the header line `startMP` writes for the outermost layer of an S/MIME signed message, up to its
    first CRLF -/
def signedContentTypeLine : Bytes := sb "Content-Type: multipart/" ++ Mime.mimeSigned ++ sb ";"

/-- **KNOWN FINDING `c18-signed-content-type-line`** (the property is false of the code here, and of
    the model): at depth 0 the model's `startMP` - like the source's - writes the Content-Type field of
    the signed layer itself, not through `writeHeader`: whatever the boundary, the write is the line
    below, CRLF, and the folded boundary parameter ... -/
theorem signed_layer_write (given fresh : Bytes) (p : Mime.PW) (h : p.stack = []) :
    ∃ pre bnd, (p.startMP Mime.mimeSigned given fresh).1.acts =
      p.acts ++ [.w pre (signedContentTypeLine ++ crlf ++ sb " boundary=" ++ bnd)] :=
  Mime.outermost_layer_write Mime.mimeSigned given fresh p h

/-- ... and that line has 87 bytes and contains blanks: longer than 78 and not a single token. This is
    the line every signed rendering carries (the harness reproduces it on every run: suite `c18-signed`). -/
theorem counterexample_signed_content_type_line :
    signedContentTypeLine.length = 87 ∧ (32 : UInt8) ∈ signedContentTypeLine ∧
    signedContentTypeLine =
      sb "Content-Type: multipart/signed; protocol=\"application/pkcs7-signature\"; micalg=sha-256;" := by
  unfold signedContentTypeLine Mime.mimeSigned
  rw [sb_ofList, sb_ofList, sb_ofList, sb_ofList]
  decide +kernel

end GoMail.Props.C18
