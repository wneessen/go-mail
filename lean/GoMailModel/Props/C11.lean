import GoMailModel.Proofs.Idem
/-
  C11 — Rendering is repeatable and all output paths agree.
  Proved: (1) `state_is_fixpoint`: everything a render writes into the Msg - generic header defaults
  (Date, Message-ID, MIME-Version, User-Agent / X-Mailer), the boundary cache, the header cache of
  every file - is left unchanged by the next render, whatever clock and random source yield then;
  (2) `second_render_equals_first`: the bytes of the second render are the bytes of the first (every
  message without deleted parts, no S/MIME); (3) a render never touches content; the encoding applied to a file body never
  depends on the header cache (the repaired defect); a cached boundary is reused. The different
  output paths (Write, Reader, files, Send) all go through WriteTo; that they agree byte for byte, and
  S/MIME re-renders, are checked by the run on histories of 2..5 renders.
-/
namespace GoMail.Props.C11
open GoMail GoMail.Mime

/-- A render does not consume or alter the content: body parts are untouched, files keep their name,
    encoding choice, content and producer. -/
theorem render_preserves_content (s : MsgState) (e : Entropy) (outer signing : Bool) :
    let s' := (writeMsg s e outer signing).2
    s'.parts = s.parts ∧ s'.charset = s.charset ∧ s'.encoding = s.encoding ∧
    s'.embeds.map (fun f => (f.name, f.enc, f.prod)) = s.embeds.map (fun f => (f.name, f.enc, f.prod)) ∧
    s'.attachments.map (fun f => (f.name, f.enc, f.prod)) = s.attachments.map (fun f => (f.name, f.enc, f.prod)) := by
  -- `fileHeaders` writes the `header` field of a file only
  have files : ∀ (s' : MsgState) (a : Bool) (l : List FileM),
      (l.map (fileHeaders s' a)).map (fun f => (f.name, f.enc, f.prod)) = l.map (fun f => (f.name, f.enc, f.prod)) :=
    fun _ _ _ => List.map_map.trans (List.map_congr_left fun _ _ => rfl)
  exact ⟨rfl, rfl, rfl, files _ _ _, files _ _ _⟩

/-- The transfer encoding applied to a file body is a function of File.Enc alone — whatever the header
    cache holds (first render or tenth). -/
theorem file_body_encoding_ignores_cache (p : PW) (f : FileM) (h : HeaderMap) :
    ((p.addFile { f with header := h }).acts.getLast?) =
      some (.body ((if p.depth == 0 then ((h.foldl (fun p kv => p.partHeader kv.1 [kv.2]) p).str crlf) else p.newPart none h).depth == 0)
        (Body.encodeBody (cteOf (if f.enc.isEmpty then encB64 else f.enc)) f.prod.content) f.prod.fails) := by
  simp [PW.addFile, PW.body]

/-- A valid cached boundary is reused on every later render, whatever the random source yields. -/
theorem cached_boundary_reused (p : PW) (mt given fresh1 fresh2 : Bytes) (hv : validBoundary given = true) :
    (p.startMP mt given fresh1).2 = (p.startMP mt given fresh2).2 :=
  (bnd_of_valid hv fresh1).trans (bnd_of_valid hv fresh2).symm

/-- **A render leaves a fixpoint behind** (all message shapes). -/
theorem state_is_fixpoint (s : MsgState) (e1 e2 : Entropy) (h : RenderOK s e1) :
    (writeMsg (writeMsg s e1 false).2 e2 false).2.gen = (writeMsg s e1 false).2.gen ∧
    (writeMsg (writeMsg s e1 false).2 e2 false).2.bMixed = (writeMsg s e1 false).2.bMixed ∧
    (writeMsg (writeMsg s e1 false).2 e2 false).2.bRelated = (writeMsg s e1 false).2.bRelated ∧
    (writeMsg (writeMsg s e1 false).2 e2 false).2.bAlt = (writeMsg s e1 false).2.bAlt ∧
    (writeMsg (writeMsg s e1 false).2 e2 false).2.embeds = (writeMsg s e1 false).2.embeds ∧
    (writeMsg (writeMsg s e1 false).2 e2 false).2.attachments = (writeMsg s e1 false).2.attachments :=
  render_state_fixpoint s e1 e2 h

/-- **The second render produces the bytes of the first** (every message without deleted parts, single
    part or multipart, no S/MIME): whatever Date, Message-ID and boundaries the second render would draw. -/
theorem second_render_equals_first (s : MsgState) (e1 e2 : Entropy)
    (hp : ∀ p ∈ s.parts, p.deleted = false ∧ p.smime = false) (h : RenderOK s e1) :
    planBytes (writeMsg (writeMsg s e1 false).2 e2 false).1.acts = planBytes (writeMsg s e1 false).1.acts :=
  render_idempotent_all s e1 e2 h

/-- **A message that changes its shape between two renders keeps distinct boundaries.** The user's
    boundary belongs to the outermost multipart of every render. A layer that was the outermost one in an
    earlier render (and remembers the user's boundary) and is nested now - an attachment was added - gets
    a boundary of its own: whatever the cache holds, below a multipart/mixed that carries the user's
    boundary the related and alternative layers never carry it too. (Before the repair `fix: a nested
    multipart kept the user provided boundary ...` both layers were written with the same boundary and the
    rendering could not be read.) -/
theorem nested_layers_never_share_the_user_boundary (s : MsgState) (e : Entropy)
    (hu : s.boundary.isEmpty = false) (hM : hasMixed s = true)
    (hR : e.bRelated ≠ s.boundary) (hA : e.bAlt ≠ s.boundary) :
    (hasRelated s = true → (writeMsg s e false).2.bRelated ≠ s.boundary) ∧
    (hasAlt s = true → (writeMsg s e false).2.bAlt ≠ s.boundary) := by
  rw [writeMsg_snd]
  constructor
  · intro h
    simp only [h, if_true, hM, hu, Bool.not_true, Bool.not_false, Bool.and_true]
    exact nested_bnd_ne_user _ _ _ hR
  · intro h
    simp only [h, if_true, hM, hu, Bool.not_true, Bool.not_false, Bool.and_true, Bool.false_and, Bool.true_or]
    exact nested_bnd_ne_user _ _ _ hA

/-- the hypotheses are satisfiable: a fresh message with two parts and an attachment, 30-character
    random boundaries -/
example : RenderOK { parts := [⟨sb "text/plain", [], [], encQP, ⟨sb "a", false⟩, false, false⟩, ⟨sb "text/html", [], [], encQP, ⟨sb "b", false⟩, false, false⟩],
                     attachments := [⟨sb "f.txt", [], [], [], [], [], ⟨sb "x", false⟩⟩] }
    { bMixed := sb "0123456789abcdef0123456789abcd", bRelated := sb "1123456789abcdef0123456789abcd", bAlt := sb "2123456789abcdef0123456789abcd" } :=
  { user := Or.inl rfl, cM := Or.inl rfl, cR := Or.inl rfl, cA := Or.inl rfl,
    fM := by rw [sb_ofList]; decide +kernel, fR := by rw [sb_ofList]; decide +kernel, fA := by rw [sb_ofList]; decide +kernel,
    nR := by repeat rw [sb_ofList]
             decide +kernel,
    nA := by repeat rw [sb_ofList]
             decide +kernel,
    hdrE := fun f hf => (by cases hf),
    hdrA := fun f hf => (by
      have : f.header = [] := by
        simp only [List.mem_singleton] at hf; rw [hf]
      unfold HSorted; rw [this]; exact List.Pairwise.nil) }

end GoMail.Props.C11
