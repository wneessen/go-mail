import GoMailModel.Smtp.Auth
import GoMailModel.Proofs.Split
/-
  C14 — SASL mechanisms interoperate with conforming servers (PARTIAL: "accepted only when the
  credentials are right" needs collision-freeness of the hash / HMAC, which is assumed, not proved).
  The message algebra is proved with the cryptographic primitives abstract.
-/
namespace GoMail.Props.C14
open GoMail GoMail.Smtp

/-- PLAIN (RFC 4616): an RFC reader that splits the message at NUL recovers exactly authzid, authcid
    and password, for all NUL-free strings. -/
theorem plain_message_parses (identity user pass host : Bytes) (allow : Bool) (si : ServerInfo)
    (hi : ∀ x ∈ identity, x ≠ 0) (hu : ∀ x ∈ user, x ≠ 0) (hp : ∀ x ∈ pass, x ≠ 0)
    (mech msg : Bytes) (h : ((plainMech identity user pass host allow).start () si).2 = .ok (mech, some msg)) :
    mech = sb "PLAIN" ∧ splitOn 0 msg = [identity, user, pass] := by
  simp only [plainMech] at h
  split at h
  · cases h
  · split at h
    · cases h
    · simp only [Except.ok.injEq, Prod.mk.injEq, Option.some.injEq] at h
      refine ⟨h.1.symm, ?_⟩
      rw [← h.2]
      have := splitOn_joinWith 0 identity [user, pass] (by simpa using ⟨hi, hu, hp⟩)
      simpa [joinWith, List.append_assoc] using this

/-- LOGIN: the first challenge is answered with the user name, the second with the password, a third is refused. -/
theorem login_sequence (user pass host : Bytes) (allow : Bool) (c1 c2 c3 : Bytes) :
    let m := loginMech user pass host allow
    (m.next 0 c1 true) = (1, .ok (some user)) ∧ (m.next 1 c2 true) = (2, .ok (some pass)) ∧
    (m.next 2 c3 true).2 = .error errUnexpectedResponse := by
  simp [loginMech]

/-- XOAUTH2: the initial response has the documented form. -/
theorem xoauth2_message (user token : Bytes) (si : ServerInfo) :
    ((xoauth2Mech user token).start () si).2 =
      .ok (sb "XOAUTH2", some (sb "user=" ++ user ++ [1] ++ sb "auth=Bearer " ++ token ++ [1, 1])) := rfl

/-- CRAM-MD5 (RFC 2195): the response is `user SP hex(HMAC-MD5(secret, challenge))`. -/
theorem cram_response (user secret challenge : Bytes) (hmacHex : Bytes → Bytes → Bytes) :
    ((cramMech user secret hmacHex).next () challenge true).2 = .ok (some (user ++ [32] ++ hmacHex secret challenge)) := rfl

/-- SCRAM client-first-message (RFC 5802 §7): gs2-header "n,," then "n=" user ",r=" nonce, with the
    nonce of THIS attempt. -/
theorem scram_client_first (env : ScramEnv) (st : ScramSt) (user : Bytes) (hu : env.user = some user) (hp : env.plus = false) :
    (scramFirst env st).2 = .ok (some (sb "n,," ++ sb "n=" ++ user ++ sb ",r=" ++ (env.cnonces.drop st.attempt).headD [])) ∧
    (scramFirst env st).1.attempt = st.attempt + 1 := by
  unfold scramFirst
  simp [hu, hp, List.append_assoc]

/-- Every client-first message of one Auth object takes the next entry of the nonce source: a retry
    (second empty challenge) never re-uses the nonce of the previous attempt. -/
theorem scram_retry_uses_next_nonce (env : ScramEnv) (st : ScramSt) (user : Bytes) (hu : env.user = some user)
    (hp : env.plus = false) :
    let st1 := (scramFirst env st).1
    st1.nonce = (env.cnonces.drop st.attempt).headD [] ∧
    (scramFirst env (scramReset st1)).1.nonce = (env.cnonces.drop (st.attempt + 1)).headD [] := by
  unfold scramFirst scramReset
  simp [hu, hp]

/-- Channel binding (RFC 5929 / 9266): tls-unique below TLS 1.3 when the TLS stack provides it,
    tls-exporter otherwise; the gs2 header names the type that was used. -/
theorem channel_binding_choice (env : ScramEnv) (st : ScramSt) (user cb : Bytes) (hu : env.user = some user)
    (hp : env.plus = true) (he : env.exporter = some cb) :
    (scramFirst env st).2 = .ok (some (
      (if env.tlsUnique.isEmpty || env.tls13 then sb "p=tls-exporter,," else sb "p=tls-unique,,") ++
      sb "n=" ++ user ++ sb ",r=" ++ (env.cnonces.drop st.attempt).headD [])) := by
  -- the code builds the header from three pieces, the statement names it whole
  have e1 : sb "p=" ++ sb "tls-exporter" ++ sb ",," = sb "p=tls-exporter,," := by
    rw [sb_ofList, sb_ofList, sb_ofList, sb_ofList]
    rfl
  have e2 : sb "p=" ++ sb "tls-unique" ++ sb ",," = sb "p=tls-unique,," := by
    rw [sb_ofList, sb_ofList, sb_ofList, sb_ofList]
    rfl
  unfold scramFirst
  simp only [hu, hp, if_true]
  by_cases hx : (env.tlsUnique.isEmpty || env.tls13) = true
  · simp [hx, he, e1, List.append_assoc]
  · simp [hx, e2, List.append_assoc]

/-- The two outcomes of a server-first message: it is refused, with the exchange reset; or its nonce extends
    the client's, salt and iteration count parse, and the new state and the client-final message are these. -/
theorem scramServerFirst_cases (env : ScramEnv) (st : ScramSt) (m : Bytes) :
    scramServerFirst env st m = (scramReset st, .error errScram) ∨
    ∃ p0 p1 p2 rest salt iter, splitOnByte 44 m = p0 :: p1 :: p2 :: rest ∧
      hasPrefix (p0.drop 2) st.nonce = true ∧ Base64.decode (p1.drop 2) = some salt ∧ atoi (p2.drop 2) = some iter ∧
      ∃ woProof am, woProof = (if env.plus then sb "c=" ++ st.bindData else sb "c=biws") ++ sb ",r=" ++ p0.drop 2 ∧
        am = st.firstBare ++ [44] ++ m ++ [44] ++ woProof ∧
        scramServerFirst env st m =
          ({ st with nonce := p0.drop 2, salted := true, salt := salt, iter := iter, authMessage := am },
           .ok (some (woProof ++ sb ",p=" ++ (env.crypto salt iter am).1))) := by
  unfold scramServerFirst
  split
  · rename_i p0 p1 p2 rest hs
    dsimp only
    by_cases hf : (!hasPrefix p0 (sb "r=") || !hasPrefix p1 (sb "s=") || !hasPrefix p2 (sb "i=")) = true
    · rw [if_pos hf]
      exact Or.inl rfl
    by_cases hn : (st.nonce.isEmpty || !hasPrefix (p0.drop 2) st.nonce) = true
    · rw [if_neg hf, if_pos hn]
      exact Or.inl rfl
    rw [if_neg hf, if_neg hn]
    split
    · rename_i salt iter _ hsalt hiter _
      have hnonce : hasPrefix (p0.drop 2) st.nonce = true := (by simpa using hn : _ ∧ _).2
      exact Or.inr ⟨p0, p1, p2, rest, salt, iter, hs, hnonce, hsalt, hiter, _, _, rfl, rfl, rfl⟩
    · exact Or.inl rfl
  · exact Or.inl rfl

/-- client-final-message: when the server-first message is accepted, the response is
    `c=<binding>,r=<nonce>,p=<proof>` and the auth message the proof is computed over is exactly
    client-first-bare "," server-first "," client-final-without-proof — the three wire messages a
    server sees. A verifier that recomputes the proof from the messages on the wire gets the same value. -/
theorem scram_client_final (env : ScramEnv) (st st' : ScramSt) (fromServer resp : Bytes)
    (h : scramServerFirst env st fromServer = (st', .ok (some resp))) :
    ∃ woProof, resp = woProof ++ sb ",p=" ++ (env.crypto st'.salt st'.iter st'.authMessage).1 ∧
      st'.authMessage = st.firstBare ++ [44] ++ fromServer ++ [44] ++ woProof ∧ st'.salted = true := by
  rcases scramServerFirst_cases env st fromServer with e | ⟨_, _, _, _, _, _, -, -, -, -, woProof, am, -, ham, e⟩
  · rw [e] at h
    cases h
  · rw [e] at h
    cases h
    exact ⟨woProof, rfl, ham, rfl⟩

end GoMail.Props.C14
