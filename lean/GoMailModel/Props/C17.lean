import GoMailModel.Proofs.Armed
import GoMailModel.Generated.Locks
/-
  C17 — Every network operation is bounded by the configured timeout (PARTIAL: time is virtual).
  In the model every point at which the client waits for the server is an event; when the server is
  silent at that point the event is `stall armed`, where `armed` says whether a connection deadline
  was set. The theorems say: no reachable wait is unarmed. That an armed kernel deadline fires, and
  scheduling slack, are the runtime's.
-/
namespace GoMail.Props.C17
open GoMail GoMail.Smtp

/-- DialWithContext: for EVERY configuration (TLS policy, auth type, credentials) and EVERY server
    script — in particular a server that falls silent before the greeting, after EHLO, at STARTTLS, in
    the TLS handshake, at any AUTH step — the client never waits without a deadline. -/
theorem dial_never_waits_unbounded (cfg : DialCfg) (script : List Act) (caps : List Bytes) :
    ∀ e ∈ (dial cfg script caps).1.trace, e ≠ .stall false :=
  (good_dial cfg script caps).2.1

/-- DialAndSend: the same for the whole dial + send + quit dialogue of any batch. -/
theorem dialAndSend_never_waits_unbounded (cfg : DialCfg) (script : List Act) (caps : List Bytes) (ms : List MsgIn) :
    ∀ e ∈ (dialAndSend cfg script caps ms).conn.trace, e ≠ .stall false :=
  (good_dialAndSend cfg script caps ms).2.1

/-- Send and Reset on an established connection (any connection state reached without an unarmed wait). -/
theorem send_never_waits_unbounded (cfg : SendCfg) (c : Conn) (ms : List MsgIn) (h : Good c) :
    ∀ e ∈ (sendBatch cfg c ms).1.trace, e ≠ .stall false :=
  (good_sendBatch cfg c ms h).2.1

theorem reset_never_waits_unbounded (cfg : SendCfg) (c : Conn) (h : Good c) :
    ∀ e ∈ (resetWith cfg c).1.trace, e ≠ .stall false :=
  (good_kept.toCmd.resetWith cfg h).2.1

/-- The deadline is armed before the first byte is read: the trace of a dial starts with
    connect (and the implicit-TLS marker), then `deadline`. -/
theorem dial_arms_first (cfg : DialCfg) (script : List Act) (caps : List Bytes) :
    (freshConn cfg script caps).updateDeadline.1.trace =
      (if cfg.implicitTLS then [.connect, .tlsOn] else [.connect]) ++ [.deadline] := by
  rw [fresh_armed]

/-- non-vacuity: a server that is silent at the greeting does produce a wait, and it is armed -/
example : (dial {} [.stall] []).1.trace = [.connect, .deadline, .stall true, .close] := by decide +kernel

/-- Waiting for a mutex has no deadline at all, so a lock that is not given back blocks the next caller
    for good. Fact regenerated from the source (path-sensitive walk, see `C13.every_path_gives_back_the_locks_it_took`):
    no function of client.go, client_120.go, smtp/smtp.go, smtp/smtp_ehlo.go leaves a mutex held on any path. -/
theorem no_path_keeps_a_lock : Generated.lockFlowProblems = [] := rfl

/-- The connection attempt itself is bounded too. Fact regenerated from client.go: in
    `DialToSMTPClientWithContext` the context `ctx` is derived from the caller's with the configured
    timeout as deadline, and EVERY call of the dial function - the one for the configured port and the
    one for the fallback port - is given that `ctx`, not the caller's context. -/
theorem every_connection_attempt_gets_the_bounded_context :
    Generated.dialCtxDerivation = "context.WithDeadline(ctxDial, time.Now().Add(c.connTimeout))" ∧
    Generated.dialCtxArgs ≠ [] ∧ ∀ a ∈ Generated.dialCtxArgs, a = "ctx" :=
  ⟨rfl, List.cons_ne_nil _ _, by simp [Generated.dialCtxArgs]⟩

/-- how many times a trace waited a FULL timeout: an armed wait on a silent server counts when the
    deadline had been armed afresh since the previous wait (an expired deadline that nobody re-armed
    makes every further operation fail at once) -/
def fullWaits (tr : List Ev) : Nat :=
  (tr.foldl (fun (st : Bool × Nat) e => match e with
     | .deadline => (true, st.2)
     | .stall true => (false, if st.1 then st.2 + 1 else st.2)
     | _ => st) (true, 0)).2

/-- **KNOWN FINDING `c17-dialandsend-twice-the-timeout`** (false of the code, and of the model): the
    theorems above bound every single wait; they do not bound their number. When the server falls
    silent at the NOOP of the connection check (first line), at end-of-data (third line) or at the RSET
    after a message, the send gives up after one timeout, the connection still counts as usable, and
    the deferred close arms a new deadline for its QUIT and waits once more: DialAndSend returns after
    twice the configured timeout. A silent server at MAIL costs one timeout (second line). Reproduced
    against the real code in real time (DESIGN.md section 11) and by suite `c17-send-stall` every run. -/
theorem counterexample_dialAndSend_waits_twice :
    fullWaits (dialAndSend {} [.ok, .ok, .stall] [] [{ sender := some (sb "a@b.c"), rcpts := [sb "x@y.z"] }]).conn.trace = 2 ∧
    fullWaits (dialAndSend {} [.ok, .ok, .ok, .stall] [] [{ sender := some (sb "a@b.c"), rcpts := [sb "x@y.z"] }]).conn.trace = 1 ∧
    fullWaits (dialAndSend {} [.ok, .ok, .ok, .ok, .ok, .ok, .stall] [] [{ sender := some (sb "a@b.c"), rcpts := [sb "x@y.z"] }]).conn.trace = 2 := by
  decide +kernel

end GoMail.Props.C17
