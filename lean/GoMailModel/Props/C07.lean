import GoMailModel.Smtp.Dial
import GoMailModel.Proofs.Flags
/-
  C07 — TLS policy and credential confidentiality hold against any server (PARTIAL: the TLS handshake
  and certificate validation are crypto/tls's; they enter the model as a script position).
-/
namespace GoMail.Props.C07
open GoMail GoMail.Smtp

/-- Auto-discovery on an unencrypted connection never selects a mechanism that reveals the password:
    for EVERY advertised mechanism list. The preference lists are regenerated from client.go. -/
theorem autodiscover_unencrypted_is_safe (supported : Bytes) (t : AuthType)
    (h : autoDiscover supported false = some t) :
    t ≠ .plain ∧ t ≠ .login ∧ t ≠ .plainNoEnc ∧ t ≠ .loginNoEnc ∧ t ≠ .xoauth2 := by
  unfold autoDiscover at h
  split at h
  · cases h
  · simp only [Bool.false_eq_true, if_false] at h
    -- whichever entry of the unencrypted preference list is found, it is one of the challenge-response mechanisms
    have key : ∀ n ∈ Generated.preferUnencrypted, ∀ t, AuthType.ofName n = some t →
        t ≠ .plain ∧ t ≠ .login ∧ t ≠ .plainNoEnc ∧ t ≠ .loginNoEnc ∧ t ≠ .xoauth2 := by decide +kernel
    split at h
    · rename_i n hn
      exact key n (List.mem_of_find?_eq_some hn) t h
    · cases h

/-- the unencrypted preference list of the source, as a fact -/
theorem unencrypted_preferences : Generated.preferUnencrypted = ["SCRAM-SHA-256", "SCRAM-SHA-1", "CRAM-MD5"] := rfl

/-- Fact regenerated from smtp/auth.go: "a localhost server" is decided by comparing the configured
    server name with exactly these three strings (the function body is one `==` / `||` chain over its
    parameter): no prefix, suffix or address-range test that a remote name could satisfy. -/
theorem localhost_is_exactly_three_names :
    Generated.localhostIsEqChain = true ∧ Generated.localhostNames = ["localhost", "127.0.0.1", "::1"] := ⟨rfl, rfl⟩

/-- PLAIN refuses to start on a connection that is not TLS, unless the server is localhost or the caller
    chose PLAIN-NOENC: no response (which would carry the password) is produced. -/
theorem plain_refuses_cleartext (identity user pass host name : Bytes) (auth : List Bytes)
    (hl : isLocalhost name = false) :
    ((plainMech identity user pass host false).start () ⟨name, false, auth⟩).2 = .error errUnencrypted := by
  simp [plainMech, hl]

/-- LOGIN likewise -/
theorem login_refuses_cleartext (user pass host name : Bytes) (auth : List Bytes) (hl : isLocalhost name = false) :
    ((loginMech user pass host false).start 0 ⟨name, false, auth⟩).2 = .error errUnencrypted := by
  simp [loginMech, hl]

/-- Mandatory TLS and no STARTTLS in the EHLO reply: the dial fails without sending anything further. -/
theorem mandatory_without_starttls_sends_nothing (cfg : DialCfg) (c : Conn) (enc : Bool)
    (hp : cfg.policy = .mandatory) (hs : cfg.useSSL = false) (hh : c.didHello = true) (he : c.helloErr = none)
    (hx : c.hasExt "STARTTLS" = false) :
    clientTLS cfg c enc = (c, enc, some .noStartTLS) := by
  unfold clientTLS
  simp only [hs, hp, Bool.false_or]
  have : c.extension "STARTTLS" = (c, false) := by
    unfold Conn.extension Conn.hello
    simp [hh, he, hx]
  simp [this]

/-- What `Client.Auth` does with a mechanism whose `Start` refuses: the error is the mechanism's (or the
    error of the implicit EHLO); `Next` is never asked for a response. -/
theorem authWith_start_error {σ} (c : Conn) (a : Mech σ) (t : Nat)
    (h : ∀ c' : Conn, c'.tls = c.tls → c'.serverName = c.serverName → (a.start a.init ⟨c'.serverName, c'.tls, c'.auth⟩).2 = .error t) :
    (c.authWith a).2.2 = some (.mech t) ∨ ∃ e, c.hello.2 = some e ∧ (c.authWith a).2.2 = some e := by
  unfold Conn.authWith
  match c.hello, (sameFlags_kept c).hello (.refl c) with
  | (_, some e), _ => right; exact ⟨e, rfl, rfl⟩
  | (c1, none), hh =>
    left
    dsimp only
    have h2 := h (if !c1.logAuthData then { c1 with authActive := true } else c1)
      (by split <;> exact hh.tls) (by split <;> exact hh.serverName)
    split
    · rename_i st t' heq
      rw [heq] at h2
      simp only [Except.error.injEq] at h2
      subst h2
      rfl
    · rename_i st mech resp heq
      rw [heq] at h2
      simp at h2

/-- A refused STARTTLS leaves the `tls` flag clear, so a mechanism whose `Start` refuses a clear-text
    connection to this server refuses after it as it would have before. -/
theorem refused_starttls_start_error {σ} (c : Conn) (a : Mech σ) (t : Nat) (h0 : c.tls = false)
    (hrefused : ∀ r, (c.hello.1.cmd .starttls (sb "STARTTLS") 220).2 ≠ .ok r)
    (ha : ∀ auth, (a.start a.init ⟨c.serverName, false, auth⟩).2 = .error t) :
    (c.startTLS.1.authWith a).2.2 = some (.mech t) ∨
    ∃ e, c.startTLS.1.hello.2 = some e ∧ (c.startTLS.1.authWith a).2.2 = some e := by
  have hflag : c.startTLS.1.tls = false := by
    cases hf : c.startTLS.1.tls with
    | false => rfl
    | true =>
      obtain ⟨_, r, hr⟩ := startTLS_sets_flag_only_after_220 c h0 hf
      exact absurd hr (hrefused r)
  apply authWith_start_error
  intro c' ht hn
  rw [ht, hn, hflag, startTLS_serverName]
  exact ha c'.auth

/-- **A refused STARTTLS does not unlock the password.** smtp.Client used directly, any connection that
    is not TLS, any server script: if the server did not answer the STARTTLS command with 220 (a 4yz or
    5yz reply, garbage, a disconnect, silence, a failed implicit EHLO) and the caller goes on to
    `Auth(PlainAuth(...))` for a server that is not localhost, Auth returns the mechanism's
    "unencrypted connection" error (or the EHLO error) and no SASL response is ever produced. -/
theorem refused_starttls_does_not_unlock_plain (c : Conn) (identity user pass host : Bytes)
    (h0 : c.tls = false) (hl : isLocalhost c.serverName = false)
    (hrefused : ∀ r, (c.hello.1.cmd .starttls (sb "STARTTLS") 220).2 ≠ .ok r) :
    (c.startTLS.1.authWith (plainMech identity user pass host false)).2.2 = some (.mech errUnencrypted) ∨
    ∃ e, c.startTLS.1.hello.2 = some e ∧ (c.startTLS.1.authWith (plainMech identity user pass host false)).2.2 = some e :=
  refused_starttls_start_error c _ _ h0 hrefused fun auth =>
    plain_refuses_cleartext identity user pass host c.serverName auth hl

/-- LOGIN likewise -/
theorem refused_starttls_does_not_unlock_login (c : Conn) (user pass host : Bytes)
    (h0 : c.tls = false) (hl : isLocalhost c.serverName = false)
    (hrefused : ∀ r, (c.hello.1.cmd .starttls (sb "STARTTLS") 220).2 ≠ .ok r) :
    (c.startTLS.1.authWith (loginMech user pass host false)).2.2 = some (.mech errUnencrypted) ∨
    ∃ e, c.startTLS.1.hello.2 = some e ∧ (c.startTLS.1.authWith (loginMech user pass host false)).2.2 = some e :=
  refused_starttls_start_error c _ _ h0 hrefused fun auth =>
    login_refuses_cleartext user pass host c.serverName auth hl

/-- **`isEncrypted` tells the truth.** What Client.tls reports to Client.auth as "the connection is
    encrypted" (the flag auto-discovery relies on) is true only if the connection's `tls` flag is set -
    provided the flag it starts from is (the dial passes "the library's own TLS dialer was used").
    In particular `WithSSL` alone (`useSSL`), on a connection the caller's dial function handed out
    without TLS, does not make it true. -/
theorem isEncrypted_only_with_tls (cfg : DialCfg) (c : Conn) (e : Bool) (h0 : e = true → c.tls = true)
    (hn : (clientTLS cfg c e).2.2 = none) (he : (clientTLS cfg c e).2.1 = true) :
    (clientTLS cfg c e).1.tls = true := by
  revert hn he
  unfold clientTLS
  by_cases hs : (cfg.useSSL || cfg.policy == .noTLS) = true
  · rw [if_pos hs]
    exact fun _ he => h0 he
  rw [if_neg hs]
  generalize c.extension "STARTTLS" = x
  obtain ⟨c1, ext⟩ := x
  dsimp only
  by_cases hm : (cfg.policy == .mandatory && !ext) = true
  · rw [if_pos hm]
    exact fun hn _ => nomatch hn
  rw [if_neg hm]
  -- whatever StartTLS did: the answer is read off the connection it left
  generalize (if (cfg.policy == .mandatory || ext) = true then c1.startTLS else (c1, none)) = p
  obtain ⟨c2, _ | err⟩ := p
  · dsimp only
    by_cases hc : (!c2.isConnected) = true
    · rw [if_pos hc]
      exact fun hn _ => nomatch hn
    rw [if_neg hc]
    by_cases ht : (!c2.tls) = true
    · rw [if_pos ht]
      exact fun _ he => nomatch he
    rw [if_neg ht]
    exact fun _ _ => by simpa using ht
  · exact fun hn _ => nomatch hn

/-- the connection smtp.NewClient is given carries the flag of the dial: set exactly when the library's
    TLS dialer made the connection (`implicitTLS`), not when `WithSSL` was merely switched on -/
theorem newClient_tls_flag (cfg : DialCfg) (script : List Act) (caps : List Bytes) :
    (newClient cfg script caps).1.tls = cfg.implicitTLS := by
  unfold newClient
  have h1 : (freshConn cfg script caps).updateDeadline.1.tls = cfg.implicitTLS := by rw [fresh_armed]; rfl
  have k := sameFlags_kept (freshConn cfg script caps).updateDeadline.1
  match (freshConn cfg script caps).updateDeadline.1.serverTurn .greeting 220, k.serverTurn .greeting 220 (.refl _) with
  | (_, .error _), h2 => exact (k.close h2).tls.trans h1
  | (_, .ok _), h2 => exact h2.tls.trans h1

/-- non-vacuity / the case of the ninth round: WithSSL on a caller's clear-text connection, a server that
    offers only PLAIN and LOGIN: auto-discovery finds nothing it may use, no AUTH command is sent -/
example :
    (dial { host := sb "localhost", useSSL := true, implicitTLS := false, authType := .autoDiscover, user := sb "u", pass := sb "secret" }
      [.ok, .ok, .ok] [sb "AUTH PLAIN LOGIN"]).2 = some .authNotSupported := by decide +kernel

/-- non-vacuity: STARTTLS answered 454, then Auth(PlainAuth) for mail.example: refused, nothing but the
    EHLO, STARTTLS and QUIT dialogue on the wire -/
example :
    ((newClient { host := sb "mail.example" } [.ok, .ok, .reply 454 (sb "4.7.0 no TLS now"), .ok, .ok]
        [sb "STARTTLS", sb "AUTH PLAIN LOGIN"]).1.startTLS.1.authWith
      (plainMech [] (sb "u") (sb "secret") (sb "mail.example") false)).2.2 = some (.mech errUnencrypted) := by decide +kernel

/-- non-vacuity -/
example : autoDiscover (sb "PLAIN LOGIN CRAM-MD5") false = some .cramMD5 := by decide +kernel
example : autoDiscover (sb "PLAIN LOGIN") false = none := by decide +kernel
example : autoDiscover (sb "PLAIN LOGIN") true = some .plain := by decide +kernel

end GoMail.Props.C07
