import GoMailModel.Smtp.Send
import GoMailModel.Generated.SendErr
import GoMailModel.Generated.Narrow
/-
  C20 — SendError reflects the server's verdict.
-/
namespace GoMail.Props.C20
open GoMail GoMail.Smtp

/-- The numbering of the failing step used by the model is the order of the SendErrReason constants
    in senderror.go (regenerated fact). -/
theorem reason_numbering :
    Generated.sendErrReasons = ["ErrGetSender", "ErrGetRcpts", "ErrSMTPMailFrom", "ErrSMTPRcptTo", "ErrSMTPData",
      "ErrSMTPDataClose", "ErrSMTPReset", "ErrWriteContent", "ErrConnCheck", "ErrNoUnencoded", "ErrAmbiguous"] ∧
    Reason.mailFrom.toNat = 2 ∧ Reason.rcptTo.toNat = 3 ∧ Reason.data.toNat = 4 ∧ Reason.dataClose.toNat = 5 ∧
    Reason.reset.toNat = 6 := ⟨rfl, rfl, rfl, rfl, rfl, rfl⟩

/-- the hand-written matcher of the model is for the expression that is in the source -/
theorem esc_regex_is_anchored : Generated.escRegex = "^\\d{3} ([245]\\.\\d{1,3}\\.\\d{1,3})\\b" := rfl

/-- For every reply code 400..599 and every text: the error built from it carries that code, is
    temporary exactly for 4yz, and names the step it was built for. -/
theorem reply_classification (r : Reason) (code : Nat) (text : Bytes) (esc : Bool) (h : 400 ≤ code ∧ code ≤ 599) :
    (mkErr r (.reply code text) esc).code = code ∧
    ((mkErr r (.reply code text) esc).isTemp = true ↔ code / 100 = 4) ∧
    (mkErr r (.reply code text) esc).reason = r := by
  simp only [mkErr, Err.code, Err.isTemp]
  refine ⟨by simp [h.1, h.2], ?_, trivial⟩
  simp only [Bool.and_eq_true, decide_eq_true_eq]
  omega

/-- Errors that are not a server reply (disconnect, garbage, timeout, local refusals) are never
    temporary and carry no code. -/
theorem non_reply_classification (r : Reason) (e : Err) (esc : Bool) (h : ∀ c t, e ≠ .reply c t) :
    (mkErr r e esc).code = 0 ∧ (mkErr r e esc).isTemp = false ∧ (mkErr r e esc).esc = [] := by
  cases e with
  | reply c t => exact absurd rfl (h c t)
  | _ => cases esc <;> exact ⟨rfl, rfl, rfl⟩

/-- The enhanced status code is exposed only if the extension was advertised ... -/
theorem esc_requires_extension (r : Reason) (e : Err) : (mkErr r e false).esc = [] := by
  simp [mkErr, Err.esc]

theorem digitRuns_split (x : Bytes) : ∀ p ∈ digitRuns x, x = p.1 ++ p.2 := by
  intro p hp
  unfold digitRuns at hp
  split at hp
  all_goals
    simp only [List.mem_append, List.mem_ite_nil_right, List.mem_singleton, List.not_mem_nil] at hp
  · rcases hp with (⟨-, rfl⟩ | ⟨-, rfl⟩) | ⟨-, rfl⟩ <;> rfl
  · rcases hp with ⟨-, rfl⟩ | ⟨-, rfl⟩ <;> rfl
  · rcases hp with ⟨-, rfl⟩
    rfl

theorem escTail_some (pre d2 r3 e : Bytes) (h : escTail pre d2 r3 = some e) : e = pre ++ d2 := by
  unfold escTail at h
  split at h
  · cases h; rfl
  · split at h
    · cases h
    · cases h; rfl

theorem escSecond_some (pre r2 e : Bytes) (h : escSecond pre r2 = some e) : ∃ rest, pre ++ r2 = e ++ rest := by
  unfold escSecond at h
  obtain ⟨p, hp, h1⟩ := List.exists_of_findSome?_eq_some h
  have e2 := digitRuns_split r2 p hp
  have := escTail_some pre p.1 p.2 e h1
  exact ⟨p.2, by rw [this, e2]; simp⟩

theorem escFirst_some (c : UInt8) (d1 r1 e : Bytes) (h : escFirst c d1 r1 = some e) :
    ∃ rest, [c, 46] ++ d1 ++ r1 = e ++ rest := by
  unfold escFirst at h
  split at h
  · rename_i r2
    obtain ⟨rest, hr⟩ := escSecond_some _ r2 e h
    exact ⟨rest, by rw [← hr]; simp⟩
  · cases h

/-- ... and only if the reply text begins with it: whatever is exposed is a prefix of the text. -/
theorem esc_is_prefix_of_text (text e : Bytes) (h : escPrefix text = some e) : ∃ rest, text = e ++ rest := by
  unfold escPrefix at h
  split at h
  · rename_i c rest
    split at h
    · obtain ⟨p1, hp1, h1⟩ := List.exists_of_findSome?_eq_some h
      have e1 := digitRuns_split rest p1 hp1
      obtain ⟨r, hr⟩ := escFirst_some c p1.1 p1.2 e h1
      exact ⟨r, by rw [← hr, e1]; simp⟩
    · cases h
  · cases h

/-- non-vacuity: the two replies of the property's discussion -/
example : escPrefix (sb "5.1.1 User unknown") = some (sb "5.1.1") := by
  repeat rw [sb_ofList]
  decide +kernel
example : escPrefix (sb "blocked client 2.3.4.5 sorry") = none := by
  rw [sb_ofList]
  decide +kernel


/-- Fact regenerated from the sources: the only integers narrower than `int` in the library are the nesting
    depth of the multipart writer (at most four layers) and the step counter of LOGIN (at most two steps). No
    count of parts, recipients, refusals, header fields, parameters or bytes is kept in a type that wraps at 128,
    256 or 65536 - the theorems of this file quantify over all sizes, and this is the part of the tie that says the
    code does not silently stop doing so. -/
theorem no_narrow_counters :
    Generated.narrowInts = ["msgwriter.go: int8", "smtp/auth_login.go: uint8"] := rfl

end GoMail.Props.C20
