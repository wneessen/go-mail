import GoMailModel.Smtp.Dial
import GoMailModel.Proofs.Armed
/-
  C19 — No connection outlives a failed operation.
-/
namespace GoMail.Props.C19
open GoMail GoMail.Smtp

theorem close_closes (c : Conn) : c.close.cliOpen = false ∧ c.close.isConnected = false := by
  unfold Conn.close; split <;> simp_all

/-- smtp.NewClient: when the greeting is not a 220 (any other reply, garbage, disconnect, silence)
    the connection has been closed when the error is returned. -/
theorem newClient_error_closed (cfg : DialCfg) (script : List Act) (caps : List Bytes) (e : Err)
    (h : (newClient cfg script caps).2 = some e) : (newClient cfg script caps).1.cliOpen = false := by
  revert h
  unfold newClient
  split
  · exact fun _ => (close_closes _).1
  · exact fun h => nomatch h

/-- DialToSMTPClientWithContext: for EVERY configuration (TLS policy, auth type, credentials) and EVERY
    server script, whenever the dial returns an error the connection is closed. -/
theorem dial_error_closed (cfg : DialCfg) (script : List Act) (caps : List Bytes) (e : Err)
    (h : (dial cfg script caps).2 = some e) : (dial cfg script caps).1.cliOpen = false := by
  revert h
  unfold dial
  -- NewClient closed it itself; after that every error path ends in Close
  split
  · rename_i e0 hn
    exact fun _ => by simpa [hn] using newClient_error_closed cfg script caps e0 (by rw [hn])
  dsimp only
  iterate 3
    split
    · exact fun _ => (close_closes _).1
  exact fun h => nomatch h

/-- CloseWithSMTPClient on a connection it considers open: whatever the server answers to QUIT
    (221, anything else, garbage, nothing), the connection is closed afterwards. -/
theorem closeWith_closes (c : Conn) (h : c.isConnected = true) : (closeWith c).1.cliOpen = false := by
  unfold closeWith
  simp only [h, Bool.not_true, Bool.false_eq_true, if_false]
  split
  · exact (close_closes _).1
  · rename_i c' heq
    -- QUIT acknowledged with 221: Conn.quit closed it itself
    unfold Conn.quit at heq
    simp only [] at heq
    split at heq
    · cases heq
    · cases heq
      exact (close_closes _).1

theorem closeWith_closed_of_good (c : Conn) (h : Good c) : (closeWith c).1.cliOpen = false := by
  cases hc : c.isConnected with
  | true => exact closeWith_closes c hc
  | false =>
    unfold closeWith
    simp only [hc, Bool.not_false, if_true]
    exact h.2.2 hc

/-- DialAndSend, every configuration, every batch, every server script: when the call returns —
    with or without error — the connection is closed. -/
theorem dialAndSend_always_closed (cfg : DialCfg) (script : List Act) (caps : List Bytes) (ms : List MsgIn) :
    (dialAndSend cfg script caps ms).conn.cliOpen = false := by
  unfold dialAndSend
  match hd : dial cfg script caps, good_dial cfg script caps with
  | (_, some e), _ => simpa [hd] using dial_error_closed cfg script caps e (by rw [hd])
  | (c0, none), h0 =>
    dsimp only
    -- the deferred CloseWithSMTPClient runs on every path, on a connection that is still `Good`
    match sendBatch cfg.send c0 ms, good_sendBatch cfg.send c0 ms h0 with
    | (c1, none, _), h1 => exact closeWith_closed_of_good c1 h1
    | (c1, some outs, _), h1 =>
      dsimp only
      split
      · exact closeWith_closed_of_good c1 h1
      · exact closeWith_closed_of_good _ (good_kept.toCmd.closeWith h1)

/-- A successful DialAndSend ended with QUIT acknowledged by 221 (otherwise `closeErr` is set). -/
theorem success_means_quit_acknowledged (c : Conn) (h : c.isConnected = true) (hq : (closeWith c).2 = none) :
    ∃ c', c.updateDeadline.1.quit = (c', none) := by
  unfold closeWith at hq
  simp only [h, Bool.not_true, Bool.false_eq_true, if_false] at hq
  rcases hr : c.updateDeadline.1.quit with ⟨c2, e⟩
  rw [hr] at hq
  cases e with
  | some e => simp at hq
  | none => exact ⟨c2, rfl⟩

/-- non-vacuity: QUIT answered with 451 -/
example : (dialAndSend {} [.ok, .ok, .ok, .reply 451 (sb "not now")] [] []).conn.cliOpen = false := by decide +kernel

end GoMail.Props.C19
