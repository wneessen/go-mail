import GoMailModel.Smtp.Send
import GoMailModel.Proofs.LegalSend
import GoMailModel.Proofs.Acks
/-
  C03 — The server only ever commits complete messages; IsDelivered tells the truth.
  Three groups: what sendSingleMsg reports; the trace-level statement, every end-of-data marker is
  preceded by a complete rendering (read off the session legality theorem of Proofs/LegalSend); delivered
  if and only if acknowledged, each message at most once.
-/
namespace GoMail.Props.C03
open GoMail GoMail.Smtp

/-- What sendSingleMsg reports: every path but the last ends in `fail` (the delivery flag as it was, a
    SendError); the last one, behind a complete rendering and an acknowledged end-of-data, sets the flag. -/
theorem sendOne_out (cfg : SendCfg) (c : Conn) (idx : Nat) (m : MsgIn) (wd : Bool) :
    (∃ se, (sendOne cfg c idx m wd).2 = { delivered := wd, err := some se }) ∨
    (m.renderOK = true ∧ ∃ e, (sendOne cfg c idx m wd).2 = { delivered := true, err := e }) :=
  -- nothing is claimed of the connection: the outline with `True` at every stage
  let T : Conn → Prop := fun _ => True
  sendOne_outline (P := T) (A := T) (M := T) (R := T) (D := T) (E := T) (F := T)
    (Q := fun r => (∃ se, r.2 = { delivered := wd, err := some se }) ∨
      (m.renderOK = true ∧ ∃ e, r.2 = { delivered := true, err := e })) cfg idx m wd
    (ext := fun _ _ => trivial) (dsn := fun _ _ => trivial) (early := id)
    (mail := fun _ _ => ⟨fun _ _ => trivial, fun _ => trivial⟩) (abort := fun _ _ => trivial)
    (rcpts := fun _ _ _ _ => ⟨fun _ => trivial, fun _ => trivial⟩) (data := fun _ => ⟨fun _ _ => trivial, fun _ => trivial⟩)
    (renderFails := fun _ => trivial) (writeBlocks := fun _ => trivial) (eod := fun _ => ⟨fun _ _ => trivial, fun _ => trivial⟩)
    (exitFail := fun se _ => .inl ⟨se, rfl⟩)
    (exitOk := fun e _ hr => .inr ⟨hr, e, rfl⟩)
    (c := c) trivial

/-- A message whose rendering fails is never reported delivered and always carries a SendError,
    whatever the configuration, the connection state and the server script are. -/
theorem failed_render_is_reported (cfg : SendCfg) (c : Conn) (idx : Nat) (m : MsgIn) (h : m.renderOK = false) :
    (sendOne cfg c idx m false).2.delivered = false ∧ (sendOne cfg c idx m false).2.err.isSome = true := by
  rcases sendOne_out cfg c idx m false with ⟨se, hs⟩ | ⟨hr, _⟩
  · rw [hs]; exact ⟨rfl, rfl⟩
  · rw [h] at hr; cases hr

/-- IsDelivered is set only on the path on which the end-of-data marker was acknowledged with 250:
    if the model reports `delivered`, the rendering was complete. -/
theorem delivered_requires_complete_render (cfg : SendCfg) (c : Conn) (idx : Nat) (m : MsgIn)
    (h : (sendOne cfg c idx m false).2.delivered = true) : m.renderOK = true := by
  rcases sendOne_out cfg c idx m false with ⟨se, hs⟩ | ⟨hr, _⟩
  · rw [hs] at h; cases h
  · exact hr

/-- A message without error is a delivered message. -/
theorem no_error_means_delivered (cfg : SendCfg) (c : Conn) (idx : Nat) (m : MsgIn)
    (h : (sendOne cfg c idx m false).2.err = none) : (sendOne cfg c idx m false).2.delivered = true := by
  rcases sendOne_out cfg c idx m false with ⟨se, hs⟩ | ⟨_, e, hs⟩
  · rw [hs] at h; cases h
  · rw [hs]

/-- **Only complete messages reach end-of-data.** In the trace of DialAndSend - for every configuration,
    server script, capability list and batch - wherever the end-of-data marker occurs, the reference
    automaton is in state `full`: DATA was answered 354 and a COMPLETE rendering of the message was
    handed to the DATA stream since (a failed render never gets there: the connection is dropped
    instead, so the server cannot commit a fragment). -/
theorem eod_only_behind_complete_content (cfg : DialCfg) (script : List Act) (caps : List Bytes) (ms : List MsgIn)
    (pre post : List Ev) (h : (dialAndSend cfg script caps ms).conn.trace = pre ++ .eod :: post) :
    (judge pre).stopped = true ∨ (judge pre).tx = .full := by
  have hl := dialAndSend_legal cfg script caps ms
  unfold Legal at hl
  rw [h, show pre ++ Ev.eod :: post = (pre ++ [Ev.eod]) ++ post by simp] at hl
  have h1 := judge_bad_prefix _ _ hl
  rw [judge_snoc] at h1
  cases hs : (judge pre).stopped with
  | true => left; rfl
  | false =>
    right
    simp only [J.step, hs, Bool.false_eq_true, if_false, Bool.or_eq_false_iff] at h1
    cases htx : (judge pre).tx <;> simp [htx] at h1
    rfl

/-
`acks` (Proofs/Acks.lean) reads the event trace a second time, independently of the legality
automaton: it remembers which message's COMPLETE content was handed to the DATA stream last and
records that message when the end-of-data marker that follows is answered 250 (the only reply
`dataCloser.Close` accepts: textproto's ReadResponse(250)). -/

/-- sendSingleMsg, any configuration, any connection state without an unanswered end-of-data marker,
    any server script: the message is reported delivered if and only if the server acknowledged
    ITS end-of-data marker during this call - and then exactly once. -/
theorem delivered_iff_acknowledged (cfg : SendCfg) (c : Conn) (idx : Nat) (m : MsgIn)
    (hp : (acks c.trace).pend = false) :
    ((sendOne cfg c idx m false).2.delivered = true ↔
      (acks (sendOne cfg c idx m false).1.trace).acked = (acks c.trace).acked ++ [idx]) ∧
    ((sendOne cfg c idx m false).2.delivered = false ↔
      (acks (sendOne cfg c idx m false).1.trace).acked = (acks c.trace).acked) := by
  have h := (sendOne_acks cfg c idx m hp).2
  cases hd : (sendOne cfg c idx m false).2.delivered
  · rw [hd] at h
    rw [h]
    simp
  · rw [hd] at h
    rw [h]
    simp

/-- **DialAndSend: the acknowledged messages are exactly the delivered ones.** For every
    configuration (TLS policy, authentication, DSN, NOOP check), every server script (expected
    replies, 4yz, 5yz, garbage, disconnects, stalls, a server that stops reading - at any position),
    every capability list and every batch: the list of messages whose end-of-data marker the server
    answered with 250 is the list of batch positions reported IsDelivered, in batch order. -/
theorem acknowledged_are_the_delivered (cfg : DialCfg) (script : List Act) (caps : List Bytes) (ms : List MsgIn) :
    (acks (dialAndSend cfg script caps ms).conn.trace).acked = deliveredIdx 0 (dialAndSend cfg script caps ms).msgs := by
  have h0 : acks (dial cfg script caps).1.trace = {} := by
    refine (acks_kept {} rfl).dial cfg script caps ?_
    rw [fresh_armed]
    cases cfg.implicitTLS <;> rfl
  unfold dialAndSend
  match dial cfg script caps, h0 with
  | (_, some _), h0 => simp [h0, deliveredIdx]
  | (c0, none), h0 =>
  dsimp only
  have h1 := sendBatch_acks cfg.send c0 ms (by rw [h0])
  rw [h0] at h1
  match sendBatch cfg.send c0 ms, h1 with
  | (c1, outs, _), ⟨hp, ha⟩ =>
  have hcw : ∀ c : Conn, acks c.trace = acks c1.trace → acks (closeWith c).1.trace = acks c1.trace :=
    fun c h => (acks_kept _ hp).toCmd.closeWith h
  cases outs with
  | none => simp only []; rw [hcw c1 rfl, ha]; rfl
  | some outs =>
    dsimp only
    split
    · simp only []; rw [hcw c1 rfl, ha]; simp
    · simp only []; rw [hcw _ (hcw c1 rfl), ha]; simp

/-- ... so batch position k was acknowledged if and only if the k-th message reports IsDelivered ... -/
theorem acknowledged_iff_delivered (cfg : DialCfg) (script : List Act) (caps : List Bytes) (ms : List MsgIn) (k : Nat) :
    k ∈ (acks (dialAndSend cfg script caps ms).conn.trace).acked ↔
      ∃ o, (dialAndSend cfg script caps ms).msgs[k]? = some o ∧ o.delivered = true := by
  rw [acknowledged_are_the_delivered, mem_deliveredIdx]
  simp

/-- ... and no message is committed twice in one call: the acknowledged positions are strictly increasing. -/
theorem committed_at_most_once (cfg : DialCfg) (script : List Act) (caps : List Bytes) (ms : List MsgIn) :
    (acks (dialAndSend cfg script caps ms).conn.trace).acked.Pairwise (· < ·) := by
  rw [acknowledged_are_the_delivered]
  exact deliveredIdx_pairwise 0 _

/-- non-vacuity: a batch of two; the only recipient of the first message is refused (550), the second
    message goes through. One end-of-data marker is acknowledged, and it is the second message's. -/
example :
    (acks (dialAndSend {} [.ok, .ok, .ok, .ok, .reply 550 (sb "no"), .ok, .ok, .ok, .ok, .ok, .ok, .ok, .ok, .ok, .ok] []
      [{ sender := some (sb "a@b.c"), rcpts := [sb "x@y.z"] }, { sender := some (sb "a@b.c"), rcpts := [sb "x@y.z"] }]).conn.trace).acked = [1] := by
  decide +kernel

end GoMail.Props.C03
