import GoMailModel.Proofs.Flags
import GoMailModel.Proofs.Exchange
/-
  C16 — Authentication secrets never reach the debug log.
-/
namespace GoMail.Props.C16
open GoMail GoMail.Smtp

/-- While an AUTH exchange is active (auth-data logging not enabled), what `cmd` hands to the logger
    for a command is the redaction marker — whatever the command line (a SASL response) is — and for a
    3xx reply (a challenge) the marker instead of its text. The records are
    [client→server: marker] and [server→client: code, marker-or-text]. -/
theorem records_while_auth_active (c : Conn) (v : Verb) (line : Bytes) (n : Nat)
    (ha : c.authActive = true) (hd : c.debug = true) (ho : c.cliOpen = true) :
    ∃ code text, (c.cmd v line n).1.logs =
      c.logs ++ [{ c2s := true, text := redacted },
                 { c2s := false, code := code, text := if 300 ≤ code ∧ code ≤ 400 then redacted else text }] := by
  unfold Conn.cmd
  simp only [ho, Bool.not_true, Bool.false_eq_true, if_false]
  -- sending and the server's turn leave the log and its switches as the first record left them
  have hx : (((c.logC2S line).send v line).serverTurn v n).1.rest = { c.rest with logs := (c.logC2S line).logs } := by
    rw [serverTurn_rest, send_rest]; exact log_rest _ _
  refine ⟨(replyOf ((c.logC2S line).send v line |>.serverTurn v n).2).1,
          (replyOf ((c.logC2S line).send v line |>.serverTurn v n).2).2, ?_⟩
  unfold Conn.logS2C Conn.log
  have hdbg : (((c.logC2S line).send v line).serverTurn v n).1.debug = true := (congrArg Conn.debug hx :).trans hd
  have hact : (((c.logC2S line).send v line).serverTurn v n).1.authActive = true :=
    (congrArg Conn.authActive hx :).trans ha
  simp only [hdbg, if_true, hact, Bool.true_and]
  rw [show (((c.logC2S line).send v line).serverTurn v n).1.logs = (c.logC2S line).logs from (congrArg Conn.logs hx :)]
  unfold Conn.logC2S Conn.log
  simp only [hd, if_true, ha, List.append_assoc, List.cons_append, List.nil_append]
  congr 2
  simp [Bool.and_eq_true, decide_eq_true_eq]

/-- the same command line with ANOTHER payload produces the same records: the log is a function of
    the shape of the exchange, not of the secrets -/
theorem records_independent_of_payload (c : Conn) (v : Verb) (l1 l2 : Bytes) (n : Nat)
    (ha : c.authActive = true) (ho : c.cliOpen = true) :
    (c.logC2S l1).logs = (c.logC2S l2).logs := by
  unfold Conn.logC2S; simp [ha]

/-- The window closes: on EVERY path through smtp.Client.Auth (success, 535 at any step, malformed or
    unexpected challenge, disconnect) the redaction flag is off again when Auth returns, so later
    traffic is logged verbatim. -/
theorem window_closes {σ} (c : Conn) (a : Mech σ) (h : c.authActive = false) :
    (c.authWith a).1.authActive = false := by
  unfold Conn.authWith
  match c.hello, (sameFlags_kept c).hello (.refl c) with
  | (_, some _), h1 => exact h1.authActive.trans h
  | (c1, none), h1 =>
    dsimp only
    -- the exchange runs between `start`, where the window is open unless auth data is logged, and `done`
    have hdone : ∀ (start x : Conn), SameFlags start x → (start.logAuthData = true → start.authActive = false) →
        (if !x.logAuthData then { x with authActive := false } else x).authActive = false := by
      intro start x hs hl
      split
      · rfl
      · rename_i hx
        rw [hs.authActive]
        exact hl (by rw [← hs.logAuthData]; simpa using hx)
    have hstart : (if !c1.logAuthData then { c1 with authActive := true } else c1).logAuthData = true →
        (if !c1.logAuthData then { c1 with authActive := true } else c1).authActive = false := by
      split
      · rename_i hx
        intro hl
        rw [hl] at hx; cases hx
      · intro _; exact h1.authActive.trans h
    have k := sameFlags_kept (if !c1.logAuthData then { c1 with authActive := true } else c1) |>.toCmd
    split
    · exact hdone _ _ (k.quit (.refl _)) hstart
    · exact hdone _ _ (k.authLoop a _ _ _ _ (k.cmd _ _ _ rfl (.refl _))) hstart

/-- ... and outside the window `cmd` logs the command line verbatim -/
theorem verbatim_outside_window (c : Conn) (line : Bytes) (ha : c.authActive = false) (hd : c.debug = true) :
    (c.logC2S line).logs = c.logs ++ [{ c2s := true, text := line }] := by
  unfold Conn.logC2S Conn.log; simp [ha, hd]

end GoMail.Props.C16
