import GoMailModel.Smtp.Send
import GoMailModel.Proofs.Addr
/-
  C05 — Envelope addresses and command lines cannot be smuggled.
-/
namespace GoMail.Props.C05
open GoMail GoMail.Smtp

/-- RFC 5321 Quoted-string reader for a local part: `"` then qtextSMTP or quoted-pairSMTP, then `"`.
    Written from the grammar (§4.1.2), not from the writer. Returns the denoted local part and the rest. -/
def readQuotedBody : Bytes → Option (Bytes × Bytes)
  | [] => none                                   -- unterminated
  | 34 :: rest => some ([], rest)                -- closing quote
  | 92 :: c :: rest =>                           -- quoted-pair
    (readQuotedBody rest).map (fun (l, r) => (c :: l, r))
  | [92] => none
  | c :: rest => (readQuotedBody rest).map (fun (l, r) => (c :: l, r))

def readQuoted : Bytes → Option (Bytes × Bytes)
  | 34 :: rest => readQuotedBody rest
  | _ => none

/-- the reader written here from RFC 5321 is the RFC 5322 quoted-string reader of Mime/Addr.lean -/
theorem readQuotedBody_eq (l : Bytes) : readQuotedBody l = Addr.readQuoted l := by
  fun_induction readQuotedBody l
  all_goals simp [Addr.readQuoted, *]

/-- ... and the two writers escape alike -/
theorem quoteLocal_eq (l : Bytes) : quoteLocal l = [34] ++ Addr.escapeName l ++ [34] := by
  have : (fun b : UInt8 => if b == 92 || b == 34 then [92, b] else [b]) = Addr.escByte := by
    funext b
    unfold Addr.escByte
    by_cases h1 : b = 92
    · simp [h1]
    · by_cases h2 : b = 34
      · simp [h2]
      · simp [h1, h2]
  rw [quoteLocal, this]
  rfl

/-- Quoting round trip: whatever the local part is, a strict RFC 5321 reader applied to the quoted
    form written by envelopeAddress reads back exactly that local part, and stops right after it
    (so `@domain>` follows: no extra argument, no extra parameter can be introduced). -/
theorem quoted_local_reads_back (l rest : Bytes) : readQuoted (quoteLocal l ++ rest) = some (l, rest) := by
  rw [quoteLocal_eq]
  simp only [List.cons_append, List.nil_append, List.append_assoc, readQuoted]
  rw [readQuotedBody_eq, Addr.readQuoted_escape]

/-- What envelopeAddress does, by cases: the address is left alone when it has no '@' or its local
    part (everything before the LAST '@') is a Dot-string; otherwise exactly the local part is quoted. -/
theorem envelope_cases (addr : Bytes) :
    (envelopeAddress addr = addr ∧ (lastIndexAt addr = none ∨ ∃ k, lastIndexAt addr = some k ∧ isDotString (addr.take k) = true)) ∨
    (∃ k, lastIndexAt addr = some k ∧ isDotString (addr.take k) = false ∧
      envelopeAddress addr = quoteLocal (addr.take k) ++ addr.drop k) := by
  unfold envelopeAddress
  cases h : lastIndexAt addr with
  | none => exact Or.inl ⟨rfl, Or.inl rfl⟩
  | some k =>
    simp only []
    cases hd : isDotString (addr.take k) with
    | true => exact Or.inl ⟨by simp, Or.inr ⟨k, rfl, hd⟩⟩
    | false => exact Or.inr ⟨k, rfl, hd, by simp⟩

theorem dotStringAux_bytes (prev : UInt8) (l : Bytes) (h : dotStringAux prev l = true) :
    ∀ b ∈ l, isAtext b = true ∨ b = 46 := by
  induction l generalizing prev with
  | nil => intro b hb; cases hb
  | cons c cs ih =>
    intro b hb
    unfold dotStringAux at h
    by_cases hc : isAtext c = true
    · simp only [hc, if_true] at h
      rcases List.mem_cons.mp hb with rfl | hb
      · exact Or.inl hc
      · exact ih c h b hb
    · simp only [hc, if_false, Bool.false_eq_true] at h
      split at h
      · rename_i hdot
        rcases List.mem_cons.mp hb with rfl | hb
        · right; simp at hdot; exact hdot.1.1
        · exact ih c h b hb
      · cases h

/-- A local part that is sent unquoted consists of atext characters and single inner dots only: none
    of space, '<', '>', '@', ',', ';', ':', '\\', '"' or a control character can occur in it. -/
theorem unquoted_local_is_harmless (l : Bytes) (h : isDotString l = true) :
    ∀ b ∈ l, b ≠ 32 ∧ b ≠ 60 ∧ b ≠ 62 ∧ b ≠ 64 ∧ b ≠ 44 ∧ b ≠ 59 ∧ b ≠ 58 ∧ b ≠ 92 ∧ b ≠ 34 ∧ 32 < b ∧ b ≠ 127 := by
  intro b hb
  have h : isAtext b = true ∨ b = 46 := by
    cases l with
    | nil => cases hb
    | cons c cs =>
      unfold isDotString at h
      simp only [Bool.and_eq_true] at h
      rcases List.mem_cons.mp hb with rfl | hb
      · exact Or.inl h.1
      · exact dotStringAux_bytes c cs h.2 b hb
  -- "atext or '.'" evaluated at the excluded bytes only, and on the control range
  have out : ∀ k ∈ ([32, 60, 62, 64, 44, 59, 58, 92, 34, 127] : List UInt8), ¬ (isAtext k = true ∨ k = 46) := by
    unfold isAtext
    rw [sb_ofList]
    decide +kernel
  have low : ∀ k : UInt8, k.toNat < 33 → ¬ (isAtext k = true ∨ k = 46) := by
    unfold isAtext
    rw [sb_ofList]
    apply forall_uint8_lt
    decide +kernel
  have ne := fun (k : UInt8) hk => ne_of_class (fun x => isAtext x = true ∨ x = 46) h (out k hk)
  have hgt : 32 < b := by
    apply Classical.byContradiction
    intro hle
    exact low b (Nat.lt_succ_of_le (UInt8.le_iff_toNat_le.mp (UInt8.not_lt.mp hle))) h
  exact ⟨ne 32 (by decide), ne 60 (by decide), ne 62 (by decide), ne 64 (by decide), ne 44 (by decide), ne 59 (by decide),
    ne 58 (by decide), ne 92 (by decide), ne 34 (by decide), hgt, ne 127 (by decide)⟩

/-- validateLine: an argument that passes contains no CR, LF or other control character -/
theorem validated_has_no_control (b : Bytes) (h : containsCRLF b = false) : ∀ x ∈ b, 32 ≤ x ∧ x ≠ 127 := by
  intro x hx
  have := (List.any_eq_false.mp h) x hx
  simpa only [Bool.or_eq_true, decide_eq_true_eq, beq_iff_eq, not_or, UInt8.not_lt] using this

/-- non-vacuity: the smuggling attempt of the property text -/
example : envelopeAddress (sb "a b>c@example.com") = sb "\"a b>c\"@example.com" := by decide +kernel

end GoMail.Props.C05
