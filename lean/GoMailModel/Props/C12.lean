import GoMailModel.Proofs.PlanOrder
import GoMailModel.Generated.Narrow
/-
  C12 — Render failures are reported: never a panic, never silent success.
  The model is total (no partial function, no `panic` branch): what Go could dereference after a
  failed CreatePart is behind the same guard as in msgwriter.go and the interpreter skips it.
-/
namespace GoMail.Props.C12
open GoMail GoMail.Mime

/-- the rendering of an unsigned message on a destination that never fails -/
def rendering (s : MsgState) (e : Entropy) : Bytes := planBytes (writeMsg s e false false).1.acts

/-- Byte accounting, for EVERY plan and EVERY destination limit (also failing producers, invalid
    boundaries, re-renders): the count WriteTo returns is the number of bytes the destination accepted. -/
theorem count_is_accepted (plan : List WAct) (limit : Option Nat) :
    (exec plan { sink := { limit := limit } }).n = (exec plan { sink := { limit := limit } }).sink.acc.length :=
  exec_counted plan _ rfl

/-- Generic plan theorem: the destination accepts `k` bytes and then fails (short write at the
    boundary); if the plan has more than `k` bytes and no other error source, the error is set, the
    count is exactly `k` and exactly the first `k` bytes were delivered. -/
theorem plan_sink_failure (plan : List WAct) (k : Nat) (hs : ∀ a ∈ plan, SinkOnly a)
    (hk : k < (planBytes plan).length) :
    let m := exec plan { sink := { limit := some k } }
    m.err = true ∧ m.n = k ∧ m.sink.acc = (planBytes plan).take k := by
  intro m
  have h0 : FailInv ({ sink := { limit := some k } } : MW) k [] :=
    ⟨⟨rfl, Nat.zero_le _⟩, rfl, fun _ => rfl, fun h => by cases h⟩
  have h := exec_failinv plan _ k [] hs h0
  simp only [List.nil_append] at h
  have hc : Counted m := exec_counted plan _ rfl
  have herr : m.err = true := by
    cases he : m.err with
    | true => rfl
    | false =>
      have := h.noerr_all he
      have hw := h.within.2
      rw [this] at hw
      omega
  obtain ⟨hlen, _⟩ := h.err_full herr
  refine ⟨herr, ?_, ?_⟩
  · rw [hc]; exact hlen
  · have := h.acc_prefix; rw [hlen] at this; exact this

/-- C12 for messages, every offset: an unsigned message whose producers do not fail and whose
    boundaries are valid, rendered to a destination failing at ANY offset k below the output length. -/
theorem sink_failure_reported (s : MsgState) (e : Entropy) (k : Nat)
    (hp : NoFailingProducers s) (hb : GoodBoundaries s) (hk : k < (rendering s e).length) :
    let m := exec (writeMsg s e false false).1.acts { sink := { limit := some k } }
    m.err = true ∧ m.n = k ∧ m.sink.acc = (rendering s e).take k :=
  plan_sink_failure _ k (writeMsg_sinkOnly s e hp hb) hk

/-- ... and on a destination that never fails: no error, the count is the length of the output. -/
theorem success_count (s : MsgState) (e : Entropy) (hp : NoFailingProducers s) (hb : GoodBoundaries s) :
    let m := exec (writeMsg s e false false).1.acts {}
    m.err = false ∧ m.sink.acc = rendering s e ∧ m.n = (rendering s e).length := by
  intro m
  have := exec_unlimited (writeMsg s e false false).1.acts {} (writeMsg_sinkOnly s e hp hb) rfl rfl
  simpa [rendering] using this

/-- A failing producer is reported, for every plan in which no `mw.err = SetBoundary(..)` assignment
    follows (the only action that can take an error back). -/
theorem producer_failure_reported_plan (plan : List WAct) (limit : Option Nat)
    (hnoclear : ∀ a ∈ plan, ∀ b, a ≠ .w (some false) b)
    (hfail : ∃ d b, WAct.body d b true ∈ plan) :
    (exec plan { sink := { limit := limit } }).err = true := by
  -- the failing producer sets the error, and what follows it does not clear it
  obtain ⟨d, b, hm⟩ := hfail
  obtain ⟨l1, l2, rfl⟩ := List.append_of_mem hm
  rw [exec_append]
  exact exec_err_of_notClear l2 _ (fun a ha => hnoclear a (by simp [ha])) (step_body_fails _ d b)

/-- **A producer fails at any point -> WriteTo returns a non-nil error.** For EVERY message state
    (any number of parts and files, any boundaries - caller-chosen, cached from an earlier render,
    valid or not -, with or without the S/MIME wrapper, first render or a later one), every entropy
    and every destination (healthy, or failing at any offset): if the producer of a rendered body
    part, of an embed or of an attachment fails - before or after it emitted data - the error of the
    render is set when it ends. The reason is structural: every multipart is opened before the first
    producer runs (`stageContent_failed`), so nothing after a producer can clear the error. -/
theorem producer_failure_reported (s : MsgState) (e : Entropy) (outer signing : Bool) (limit : Option Nat)
    (hfail : (∃ x ∈ s.parts.filter (fun x => !x.deleted && !x.smime), x.prod.fails = true) ∨
      (∃ f ∈ s.embeds, f.prod.fails = true) ∨ (∃ f ∈ s.attachments, f.prod.fails = true)) :
    (exec (writeMsg s e outer signing).1.acts { sink := { limit := limit } }).err = true := by
  unfold writeMsg
  simp only []
  apply stageContent_failed
  rcases hfail with h | ⟨f, hf, hff⟩ | ⟨f, hf, hff⟩
  · exact Or.inl h
  · exact Or.inr (Or.inl ⟨_, List.mem_map.mpr ⟨f, hf, rfl⟩, by rw [fileHeaders_prod]; exact hff⟩)
  · exact Or.inr (Or.inr ⟨_, List.mem_map.mpr ⟨f, hf, rfl⟩, by rw [fileHeaders_prod]; exact hff⟩)

/-- ... in terms of Msg.WriteTo on an unsigned message: the error flag of the result is set -/
theorem writeTo_reports_producer_failure (s : MsgState) (e : Entropy) (limit : Option Nat) (hs : s.smime = false)
    (hfail : (∃ x ∈ s.parts.filter (fun x => !x.deleted && !x.smime), x.prod.fails = true) ∨
      (∃ f ∈ s.embeds, f.prod.fails = true) ∨ (∃ f ∈ s.attachments, f.prod.fails = true)) :
    ∃ acc n st, writeTo s e limit = some (acc, n, true, st) := by
  have h := producer_failure_reported s e false false limit hfail
  unfold writeTo renderPlan
  simp only [hs, Bool.false_eq_true, if_false]
  exact ⟨_, _, _, by rw [h]⟩

/-- non-vacuity: a message whose second part fails after emitting data -/
example : ∃ acc n st, writeTo ({ parts := [
      { ctype := sb "text/plain", charset := [], desc := [], enc := encQP, prod := { content := sb "hi" } },
      { ctype := sb "text/html", charset := [], desc := [], enc := encB64, prod := { content := sb "<b>partial", fails := true } }] } : MsgState)
    { date := sb "d", msgid := sb "m", bMixed := sb "M", bRelated := sb "R", bAlt := sb "A", bSigned := sb "S", signature := [] } (some 100) =
    some (acc, n, true, st) :=
  writeTo_reports_producer_failure _ _ _ rfl (Or.inl ⟨{ ctype := sb "text/html", charset := [], desc := [], enc := encB64, prod := { content := sb "<b>partial", fails := true } }, by simp, rfl⟩)

/-- non-vacuity: a two-part message satisfies the hypotheses and has output to cut -/
example : NoFailingProducers ({ parts := [{ ctype := sb "text/plain", charset := [], desc := [], enc := encQP, prod := { content := sb "hi" } }] } : MsgState) ∧
    GoodBoundaries ({} : MsgState) := by
  refine ⟨⟨?_, ?_, ?_⟩, ?_⟩ <;> simp [GoodBoundaries, GoodGiven]


/-- Fact regenerated from the sources: the only integers narrower than `int` in the library are the nesting
    depth of the multipart writer (at most four layers) and the step counter of LOGIN (at most two steps). No
    count of parts, recipients, refusals, header fields, parameters or bytes is kept in a type that wraps at 128,
    256 or 65536 - the theorems of this file quantify over all sizes, and this is the part of the tie that says the
    code does not silently stop doing so. -/
theorem no_narrow_counters :
    Generated.narrowInts = ["msgwriter.go: int8", "smtp/auth_login.go: uint8"] := rfl

end GoMail.Props.C12
