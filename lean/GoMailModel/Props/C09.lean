import GoMailModel.Eml.Params
import GoMailModel.Generated.Eml
import GoMailModel.Generated.Narrow
/-
  C09 — EML parsing is total. The part of eml.go that indexes and slices by hand is modelled with
  Go's slice semantics (out of range = panic); the rest of the parser only consumes what net/mail,
  mime/multipart and mime.ParseMediaType return (contract: they return or fail, they do not panic).
-/
namespace GoMail.Props.C09
open GoMail GoMail.Eml

/-- the guarded slice is in range; its value is the expression `Eml.fileNameAndType` (Eml/Body.lean) has
    for the same lines of eml.go -/
theorem filenameOf_eq (name : Bytes) :
    filenameOf name = .ok (if name.length ≥ 2 ∧ name.head? = some 34 ∧ name.getLast? = some 34
      then (name.drop 1).take (name.length - 2) else name) := by
  unfold filenameOf
  split
  · rename_i h
    rw [goSlice, if_pos (by omega)]
    congr 2
    omega
  · rfl

/-- the file name extraction never slices out of range, for EVERY parameter value -/
theorem filename_never_panics (name : Bytes) : ∃ r, filenameOf name = .ok r := ⟨_, filenameOf_eq name⟩

/-- ... and for a quoted value it returns exactly what is between the quotes -/
theorem filename_quoted (inner : Bytes) : filenameOf ([34] ++ inner ++ [34]) = .ok inner := by
  rw [filenameOf_eq, if_pos ⟨by simp, by simp, by rw [List.getLast?_append]; rfl⟩]
  simp

/-- the slice as it was written before the repair does panic: the witnesses of the defect -/
theorem unguarded_panics_on_empty : ∃ e, filenameUnguarded [] = .error e := ⟨_, rfl⟩
theorem unguarded_panics_on_one_byte : ∃ e, filenameUnguarded [120] = .error e := ⟨_, rfl⟩

/-- parseMultiPartHeader is total by construction (structural recursion only): it returns for every input -/
theorem parseMultiPartHeader_total (v : Bytes) : ∃ h opts, parseMultiPartHeader v = (h, opts) := ⟨_, _, rfl⟩

/-- Every integer index / slice expression of eml.go (inventory regenerated from the source on every
    run) is one of the expressions whose range safety is accounted for:
    * guarded by an enclosing length check (`contentTypeSlice[0]`, `optSplit[0|1]`, `name[0]`, the file name slice),
    * applied to the result of strings.Split, which has at least one element (`headerSplit[0]`, `headerSplit[1:]`),
    * applied to a textproto header value list, non-empty by contract, or to the literal default
      (`multiPartContentType[0]`, `mutliPartTransferEnc[0]`, `contentDisposition[0]`).
    A new or changed expression makes this theorem fail. -/
def accountedFor : List (String × String × List String) := [
  ("parseEMLMultipart", "contentTypeSlice[0]", ["ok && len(contentTypeSlice) == 1"]),
  ("parseEMLMultipart", "multiPartContentType[0]", []),
  ("parseEMLMultipart", "mutliPartTransferEnc[0]", []),
  ("parseMultiPartHeader", "headerSplit[0]", []),
  ("parseMultiPartHeader", "headerSplit[1:]", []),
  ("parseMultiPartHeader", "optSplit[0]", ["len(optSplit) == 2"]),
  ("parseMultiPartHeader", "optSplit[1]", ["len(optSplit) == 2"]),
  ("parseEMLAttachmentEmbed", "contentDisposition[0]", []),
  ("parseEMLAttachmentEmbed", "name[0]", ["ok"]),
  ("parseEMLAttachmentEmbed", "name[1 : len(name)-1]",
    ["ok", "len(name) >= 2 && name[0] == '\"' && name[len(name)-1] == '\"'"])]

theorem indexing_accounted_for : ∀ e ∈ Generated.emlIndexing, e ∈ accountedFor := by decide +kernel


/-- Fact regenerated from the sources: the only integers narrower than `int` in the library are the nesting
    depth of the multipart writer (at most four layers) and the step counter of LOGIN (at most two steps). No
    count of parts, recipients, refusals, header fields, parameters or bytes is kept in a type that wraps at 128,
    256 or 65536 - the theorems of this file quantify over all sizes, and this is the part of the tie that says the
    code does not silently stop doing so. -/
theorem no_narrow_counters :
    Generated.narrowInts = ["msgwriter.go: int8", "smtp/auth_login.go: uint8"] := rfl

end GoMail.Props.C09
