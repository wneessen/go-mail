import GoMailModel.Proofs.Wrap
import GoMailModel.Proofs.QP
import GoMailModel.Proofs.Tree
import GoMailModel.Proofs.ReaderInv
import GoMailModel.Generated.Nesting
import GoMailModel.Generated.Narrow
/-
  C01 — Rendered MIME carries exactly the content the caller supplied.
  Theorems: the nesting decisions as regenerated from msg.go; the transfer encodings and their
  inverses (quoted-printable and base64 decoders written from the RFCs give the content back, for
  every content); the refinement of the imperative multipart writer to the RFC 2046 serialisation of
  the message TREE (`render_is_tree`). What is not proved: that an RFC 2046 *reader* inverts that
  serialisation (it does whenever no delimiter line occurs inside a leaf; the boundaries are random) -
  this last step is carried by the correspondence run with the harness' own MIME reader.
-/
namespace GoMail.Props.C01
open GoMail GoMail.Mime

/-- The three layer decisions, as regenerated from the Go source, are exactly the rule of the
    property: alternative iff more than one body part; related iff there are embeds and something to
    relate them to; mixed iff there are attachments and something to mix them with. Counts: `np` body
    parts (none deleted, none a signature part), `ne` embeds, `na` attachments. -/
theorem nesting_exact (np ne na : Nat) :
    (Generated.hasAlt 0 np np ne na (decide (np > 0)) = true ↔ np > 1) ∧
    (Generated.hasRelated 0 np np ne na (decide (np > 0)) = true ↔ (ne > 0 ∧ (np > 0 ∨ ne > 1))) ∧
    (Generated.hasMixed 0 np np ne na (decide (np > 0)) = true ↔ (na > 0 ∧ (np > 0 ∨ ne > 0 ∨ na > 1))) := by
  unfold Generated.hasAlt Generated.hasRelated Generated.hasMixed
  simp only [Bool.and_eq_true, Bool.or_eq_true, decide_eq_true_eq, true_and, and_true]
  refine ⟨?_, ?_⟩ <;> constructor <;> intro h <;> omega

/-- The same decisions on a message state built through the builder API (no deleted parts, no
    signature part): they only look at the three counts. -/
theorem nesting_of_state (s : MsgState) (h : ∀ p ∈ s.parts, p.deleted = false ∧ p.smime = false) :
    (hasAlt s = true ↔ s.parts.length > 1) ∧
    (hasRelated s = true ↔ (s.embeds.length > 0 ∧ (s.parts.length > 0 ∨ s.embeds.length > 1))) ∧
    (hasMixed s = true ↔ (s.attachments.length > 0 ∧ (s.parts.length > 0 ∨ s.embeds.length > 0 ∨ s.attachments.length > 1))) := by
  obtain ⟨hc, hb⟩ := plain_counts s h
  unfold hasAlt hasRelated hasMixed
  rw [hc, hb]
  exact nesting_exact s.parts.length s.embeds.length s.attachments.length

/-- base64 bodies: removing the line structure gives back the base64 encoding of the content, and
    the alphabet keeps boundary delimiters (which start with "--") out of every line. -/
theorem b64_body_is_encoding (content : Bytes) :
    ∃ ls : List Bytes, Body.encodeBody .b64 content = (ls.map (· ++ crlf)).flatten ∧
      ls.flatten = Base64.encode content ∧ ∀ l ∈ ls, ∀ c ∈ l, c ≠ 45 := by
  obtain ⟨ls, h1, h2, h3⟩ := b64Body_lines content
  exact ⟨ls, h1, h2, fun l hl c hc =>
    ne_of_class (Base64.isAlpha · = true) ((h3 l hl).2.2 c hc) (by decide)⟩

/-- LF -> CRLF canonicalisation of text that has no CR of its own -/
def lfToCRLF (xs : Bytes) : Bytes := (xs.map (fun b => if b == 10 then [13, 10] else [b])).flatten

/-- quoted-printable bodies (and the bodies of parts with an unknown encoding label, which take
    the same writer): an RFC 2045 decoder gives back the content with its line breaks made CRLF,
    for EVERY content. `QP.canon` is the writer's reading of its input: CR, LF and CRLF are each
    one line break. -/
theorem qp_body_roundtrip (content : Bytes) :
    QP.decode (Body.encodeBody .qp content) = QP.canon false content ∧
    QP.decode (Body.encodeBody .other content) = QP.canon false content :=
  ⟨QP.roundtrip content, QP.roundtrip content⟩

/-- ... and for content without CR this is exactly the LF -> CRLF canonicalisation of the property. -/
theorem qp_canon_lf (content : Bytes) (h : ∀ b ∈ content, b ≠ 13) :
    QP.canon false content = lfToCRLF content := by
  induction content with
  | nil => rfl
  | cons b r ih =>
    rw [QP.canon, QP.emit_false (h b List.mem_cons_self), ih fun x hx => h x (List.mem_cons_of_mem _ hx)]
    rfl

/-- ... and an RFC 4648 decoder applied to the joined lines gives the content back, for EVERY content. -/
theorem b64_body_roundtrip (content : Bytes) :
    ∃ ls : List Bytes, Body.encodeBody .b64 content = (ls.map (· ++ crlf)).flatten ∧
      Base64.decode ls.flatten = some content := by
  obtain ⟨ls, h1, h2, _⟩ := b64_body_is_encoding content
  exact ⟨ls, h1, by rw [h2]; exact Base64.decode_encode content⟩

/-- which lists are empty when a layer is not needed -/
theorem plain_empty (s : MsgState) (h : Plain s) :
    (hasAlt s = true → hasRelated s = false → s.embeds.length = 0) ∧
    ((hasAlt s = true ∨ hasRelated s = true) → hasMixed s = false → s.attachments.length = 0) := by
  obtain ⟨hA, hR, hM⟩ := nesting_of_state s h
  rw [← Bool.not_eq_true (hasRelated s), ← Bool.not_eq_true (hasMixed s), hA, hR, hM]
  omega

/-- the tree of a plain message that needs a layer is one multipart: the layers it does not need have
    nothing to hold -/
theorem contentTree_multi (s : MsgState) (bM bR bA : Bytes) (embeds attachments : List FileM) (hp : Plain s)
    (hne : embeds.length = s.embeds.length) (hna : attachments.length = s.attachments.length)
    (hl : hasMixed s = true ∨ hasRelated s = true ∨ hasAlt s = true) :
    ∃ mt b cs, contentTree s bM bR bA embeds attachments = [.multi mt b cs] := by
  obtain ⟨pe, pa⟩ := plain_empty s hp
  unfold contentTree
  cases hM : hasMixed s with
  | true => exact ⟨_, _, _, rfl⟩
  | false =>
    have hRA : hasAlt s = true ∨ hasRelated s = true := by
      rcases hl with h | h | h
      · rw [hM] at h; cases h
      · exact .inr h
      · exact .inl h
    obtain rfl : attachments = [] := List.eq_nil_of_length_eq_zero (hna.trans (pa hRA hM))
    cases hR : hasRelated s with
    | true => exact ⟨_, _, _, List.append_nil _⟩
    | false =>
      have hA : hasAlt s = true := by
        rcases hRA with h | h
        · exact h
        · rw [hR] at h; cases h
      obtain rfl : embeds = [] := List.eq_nil_of_length_eq_zero (hne.trans (pe hA hR))
      rw [hA]
      exact ⟨_, _, _, (List.append_nil _).trans (List.append_nil _)⟩

/-- **The rendered body is the serialisation of the message tree.** For every message without deleted
    parts that needs a multipart layer (no S/MIME), every header state and every entropy: the bytes of
    a complete render are the message header fields followed by `Ent.ser` of ONE entity, and that
    entity is `contentTree`: multipart/mixed [ multipart/related [ multipart/alternative [body parts] ,
    embeds ] , attachments ] with exactly the layers `hasMixed / hasRelated / hasAlt` ask for, the
    leaves in the order parts, embeds, attachments, every multipart opened with the boundary it is
    closed with. `Ent.ser` / `serList` (Proofs/Tree.lean) are RFC 2046 §5.1.1 in twelve lines. -/
theorem render_is_tree (s : MsgState) (e : Entropy)
    (hp : ∀ p ∈ s.parts, p.deleted = false ∧ p.smime = false)
    (hl : hasMixed s = true ∨ hasRelated s = true ∨ hasAlt s = true) :
    ∃ top, contentTree (defaultHeaders s e) (writeMsg s e false).2.bMixed (writeMsg s e false).2.bRelated (writeMsg s e false).2.bAlt
        (writeMsg s e false).2.embeds (writeMsg s e false).2.attachments = [top] ∧
      planBytes (writeMsg s e false).1.acts = (stageHeaders (defaultHeaders s e) {}).out ++ top.ser := by
  obtain ⟨mt, b, cs, ht⟩ := contentTree_multi (defaultHeaders s e) (writeMsg s e false).2.bMixed (writeMsg s e false).2.bRelated
    (writeMsg s e false).2.bAlt (writeMsg s e false).2.embeds (writeMsg s e false).2.attachments hp
    (List.length_map _) (List.length_map _) hl
  refine ⟨_, ht, ?_⟩
  rw [writeMsg_refines_all s e false, ht]
  -- the one entity is a multipart, which `serAt` serialises as `ser`
  exact congrArg _ (List.append_nil _)

/-- The same for EVERY message without deleted parts (no S/MIME), including those that need no
    multipart layer: header fields, then the tree - and a message without layers is its single leaf
    at the top level (`Ent.serTop`: header fields folded by writeHeader, empty line, encoded body) or
    has no content at all. -/
theorem render_is_tree_all (s : MsgState) (e : Entropy)
    (hp : ∀ p ∈ s.parts, p.deleted = false ∧ p.smime = false) :
    planBytes (writeMsg s e false).1.acts = (stageHeaders (defaultHeaders s e) {}).out ++
      ((contentTree (defaultHeaders s e) (writeMsg s e false).2.bMixed (writeMsg s e false).2.bRelated (writeMsg s e false).2.bAlt
        (writeMsg s e false).2.embeds (writeMsg s e false).2.attachments).map Ent.serTop).flatten :=
  serAt_false ▸ writeMsg_refines_all s e false

/-- **Every boundary delimits what it announces.** An RFC 2046 §5.1.1 body splitter written from the
    grammar (`Reader.splitParts`: cut at every CRLF "--" boundary, the last delimiter must be the
    closing one) applied to the body of a multipart entity as the writer serialises it returns exactly
    the serialisations of the children, in order - for every boundary, every subtype and every list
    of children in which the delimiter does not occur (freshness of the boundary). Together with
    `render_is_tree_all` (the render IS the tree) and `tree_leaves` this is the structural half of the
    property for every message; the leaf half is `qp_body_roundtrip` / `b64_body_roundtrip`. -/
theorem boundary_delimits_children (st b : Bytes) (cs : List Ent) (hne : cs ≠ [])
    (hf : ∀ c ∈ cs, Reader.Fresh (Reader.dl b) ([13, 10] ++ c.ser)) :
    (Ent.multi st b cs).ser = multiHead st b ++ Reader.frame b (cs.map Ent.ser) ∧
    Reader.splitParts b (Reader.frame b (cs.map Ent.ser)) = some (cs.map Ent.ser) := by
  refine ⟨by simp [Ent.ser, Reader.frame, Reader.serList_frameAux, List.append_assoc], ?_⟩
  apply Reader.splitParts_frame
  · intro h; exact hne (List.map_eq_nil_iff.mp h)
  · intro p hp
    obtain ⟨c, hc, rfl⟩ := List.mem_map.mp hp
    exact hf c hc

/-- non-vacuity: two leaves behind a boundary are found again; a part that contains the delimiter is not fresh -/
example : Reader.splitParts (sb "XyZ") (Reader.frame (sb "XyZ") [sb "A: 1\r\n\r\nbody one", sb "B: 2\r\n\r\n--not-the-boundary"]) =
    some [sb "A: 1\r\n\r\nbody one", sb "B: 2\r\n\r\n--not-the-boundary"] := by
  repeat rw [sb_ofList]
  decide +kernel
example : Reader.freshb (Reader.dl (sb "XyZ")) (sb "\r\nA: 1\r\n\r\nline\r\n--XyZ inside") = false := by
  repeat rw [sb_ofList]
  decide +kernel

/-- ... and whatever layers are present, the leaves of that tree are, in order: one per body part, one
    per embed, one per attachment. -/
theorem tree_leaves (s : MsgState) (bM bR bA : Bytes) (embeds attachments : List FileM) :
    leavesL (contentTree s bM bR bA embeds attachments) =
      (s.parts.filter (fun x => !x.deleted && !x.smime)).map (leafOfPart s) ++ embeds.map leafOfFile ++ attachments.map leafOfFile := by
  unfold contentTree
  simp only [leavesL_layer, leavesL_append]
  rw [leavesL_map _ (fun _ => rfl), leavesL_map _ (fun _ => rfl), leavesL_map _ (fun _ => rfl)]

/-- 8bit / 7bit bodies are the content itself -/
theorem raw_body_is_content (content : Bytes) : Body.encodeBody .raw content = content := rfl

example : QP.decode (QP.encodeBytes (sb "a=b \n\tü ")) = sb "a=b \r\n\tü " := by
  repeat rw [sb_ofList]
  decide +kernel

example : (Generated.hasMixed 0 1 1 0 1 true = true) ∧ (Generated.hasAlt 0 1 1 0 1 true = false) := by decide +kernel


/-- Fact regenerated from the sources: the only integers narrower than `int` in the library are the nesting
    depth of the multipart writer (at most four layers) and the step counter of LOGIN (at most two steps). No
    count of parts, recipients, refusals, header fields, parameters or bytes is kept in a type that wraps at 128,
    256 or 65536 - the theorems of this file quantify over all sizes, and this is the part of the tie that says the
    code does not silently stop doing so. -/
theorem no_narrow_counters :
    Generated.narrowInts = ["msgwriter.go: int8", "smtp/auth_login.go: uint8"] := rfl

end GoMail.Props.C01
