import GoMailModel.Conc.Interleave
import GoMailModel.Generated.Locks
/-
  C13 — Concurrent use of one Client is safe (PARTIAL: the part a lock model can carry).
  Proved: the lock structure of the source (regenerated facts) puts every Send call's whole dialogue
  inside one critical section of sendMutex, and for such programs EVERY schedule of ANY number of
  goroutines produces a trace that is a sequence of whole per-call blocks.
  Not proved (named in DESIGN.md / evidence): the Go memory model, races inside the standard library,
  that the syntactic extraction sees every lock operation. The race detector runs in the harness.
-/
namespace GoMail.Props.C13
open GoMail GoMail.Conc

/-- Fact regenerated from client.go: Client.Send is `sendMutex.Lock(); defer sendMutex.Unlock();
    return c.SendWithSMTPClient(...)` and nothing else. -/
theorem send_holds_sendMutex :
    ("client.go", "Client.Send", ["Lock c.sendMutex", "defer Unlock c.sendMutex", "call c.SendWithSMTPClient"])
      ∈ Generated.lockEvents := by decide +kernel

/-- Fact: DialAndSendWithContext works on a connection of its own (the client returned by its own
    dial), it never touches the shared c.smtpClient. -/
theorem dialAndSend_private_connection :
    ∀ e ∈ Generated.lockEvents, e.2.1 = "Client.DialAndSendWithContext" → False := by decide +kernel

/-- Fact regenerated from client.go / client_120.go: the functions every message of a DialAndSend and
    of a SendWithSMTPClient passes through (DialAndSendWithContext, SendWithSMTPClient, sendSingleMsg)
    never mention the shared connection `c.smtpClient`, never call a method of Client that reaches it
    (closure `sharedConnMethods`: Close, Reset, Send, DialWithContext, ...) and never pass the receiver
    on as a value - they work on the connection handed to them only. `Client.Send`, the one entry point
    that reads `c.smtpClient`, does so under sendMutex (`send_holds_sendMutex`). -/
theorem send_path_stays_on_its_connection :
    ∀ e ∈ Generated.recvUses, e.1 ≠ "Client.Send" →
      ∀ u ∈ e.2, u ≠ "c.smtpClient" ∧ u ≠ "<c>" ∧ u ∉ Generated.sharedConnMethods := by decide +kernel

/-- ... and these are the functions in question (the inventory is not empty) -/
theorem send_path_inventory :
    Generated.recvUses.map (·.1) = ["Client.DialAndSendWithContext", "Client.Send", "Client.sendSingleMsg", "Client.SendWithSMTPClient"] ∧
    "c.Reset" ∈ Generated.sharedConnMethods ∧ "c.Send" ∈ Generated.sharedConnMethods := by
  simp [Generated.recvUses, Generated.sharedConnMethods]

/-- Fact: smtp.Client.cmd writes the command and reads its reply inside one critical section of the
    connection mutex (Lock ... Text.Cmd ... Text.ReadResponse ... Unlock). -/
theorem cmd_is_one_critical_section :
    Generated.lockEvents.any (fun e =>
      e.1 == "smtp/smtp.go" && e.2.1 == "Client.cmd" && e.2.2.head? == some "Lock c.mutex" &&
      e.2.2.getLast? == some "Unlock c.mutex" && e.2.2.contains "call c.Text.Cmd" &&
      e.2.2.contains "call c.Text.ReadResponse") = true := by decide +kernel

/-- For ANY number of goroutines, ANY dialogues `body i` (the command/reply events of the i-th Send
    call: whatever the session model assigns to it) and ANY schedule: what the shared connection sees
    is a concatenation of whole dialogues, plus a prefix of the dialogue of the call that currently
    holds sendMutex. Transactions of different calls never interleave. -/
theorem sends_never_interleave {ev : Type} (body : Nat → List ev) (sched : List Nat) (s' : St ev)
    (h : exec sched ⟨full body, none, []⟩ = some s') :
    ∃ done part, s'.trace = blocks body done ++ part ∧ (s'.holder = none → part = []) ∧
      (∀ hd, s'.holder = some hd → ∃ k, part = tag hd ((body hd).take k)) :=
  atomic_blocks body sched s' h

/-- non-vacuity: two goroutines; thread 1 can only start after thread 0 released the lock -/
example : (exec [0, 0, 0, 0, 1, 1] ⟨full (fun i => [i * 10, i * 10 + 1]), none, []⟩).map (·.trace) =
    some [(0, 0), (0, 1), (1, 10)] := by decide +kernel
example : (exec [0, 0, 1] ⟨full (fun i => [i * 10, i * 10 + 1]), none, []⟩).map (·.trace) = none := by decide +kernel


/-- Fact regenerated from client.go, client_120.go, smtp/smtp.go, smtp/smtp_ehlo.go by a path-sensitive
    walk over every function body (`lockFlow` in tools/extract): no path returns, or reaches the end
    of the body, while a mutex it took is still held without a pending deferred unlock; no path
    unlocks what it does not hold or locks what it already holds; the branches of every if / switch /
    select join with the same locks held; no loop body changes the locks held; and no lock call sits at
    a place the walk does not follow. So every function gives back, on every path, the locks it took:
    no caller is left blocked for good by an early return. -/
theorem every_path_gives_back_the_locks_it_took : Generated.lockFlowProblems = [] := rfl

end GoMail.Props.C13
