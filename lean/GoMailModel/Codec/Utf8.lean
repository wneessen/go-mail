import GoMailModel.Basic.Bytes
/-
  Width of the first rune of a byte string exactly as Go's `utf8.DecodeRuneInString` reports it
  (invalid or truncated sequences have width 1). Needed because mime.WordEncoder never splits a
  multi-byte character across encoded-words.
-/
namespace GoMail.Utf8
open GoMail

def isCont (b : UInt8) : Bool := 0x80 ≤ b && b ≤ 0xBF

/-- (size, lo, hi) for a lead byte, `none` for ASCII / invalid lead bytes (width 1) -/
def lead (b : UInt8) : Option (Nat × UInt8 × UInt8) :=
  if 0xC2 ≤ b && b ≤ 0xDF then some (2, 0x80, 0xBF)
  else if b == 0xE0 then some (3, 0xA0, 0xBF)
  else if 0xE1 ≤ b && b ≤ 0xEC then some (3, 0x80, 0xBF)
  else if b == 0xED then some (3, 0x80, 0x9F)
  else if 0xEE ≤ b && b ≤ 0xEF then some (3, 0x80, 0xBF)
  else if b == 0xF0 then some (4, 0x90, 0xBF)
  else if 0xF1 ≤ b && b ≤ 0xF3 then some (4, 0x80, 0xBF)
  else if b == 0xF4 then some (4, 0x80, 0x8F)
  else none

def runeLen : Bytes → Nat
  | [] => 0
  | s0 :: rest =>
    match lead s0 with
    | none => 1
    | some (sz, lo, hi) =>
      if rest.length + 1 < sz then 1
      else match rest with
        | [] => 1
        | s1 :: r1 =>
          if s1 < lo || hi < s1 then 1
          else if sz ≤ 2 then 2
          else match r1 with
            | [] => 1
            | s2 :: r2 =>
              if !isCont s2 then 1
              else if sz ≤ 3 then 3
              else match r2 with
                | [] => 1
                | s3 :: _ => if !isCont s3 then 1 else 4

theorem ite_between {c : Prop} [Decidable c] {a b L : Nat} (ha : 1 ≤ a ∧ a ≤ L) (hb : 1 ≤ b ∧ b ≤ L) :
    1 ≤ (if c then a else b) ∧ (if c then a else b) ≤ L := by
  split
  · exact ha
  · exact hb

/-- The table `lead` plays no part: a width of 2, 3 or 4 is returned only behind a match on that many bytes. -/
theorem runeLen_bounds (b : UInt8) (r : Bytes) : 1 ≤ runeLen (b :: r) ∧ runeLen (b :: r) ≤ r.length + 1 := by
  simp only [runeLen]
  cases lead b with
  | none => simp
  | some t =>
    -- a leaf `k + 1` of the nest of `if`s, where `k` bytes behind the lead byte have been matched
    have w : ∀ k n : Nat, 1 ≤ k + 1 ∧ k + 1 ≤ n + (k + 1) := fun k n => ⟨Nat.le_add_left 1 k, Nat.le_add_left _ n⟩
    rcases r with _ | ⟨s1, _ | ⟨s2, _ | ⟨s3, r3⟩⟩⟩
    · exact ite_between (w 0 _) (w 0 _)
    · simp only [List.length_cons, List.length_nil]
      exact ite_between (w 0 _) (ite_between (w 0 _) (ite_between (w 1 _) (w 0 _)))
    · simp only [List.length_cons, List.length_nil]
      exact ite_between (w 0 _) (ite_between (w 0 _) (ite_between (w 1 _)
        (ite_between (w 0 _) (ite_between (w 2 _) (w 0 _)))))
    · simp only [List.length_cons]
      exact ite_between (w 0 _) (ite_between (w 0 _) (ite_between (w 1 _)
        (ite_between (w 0 _) (ite_between (w 2 _) (ite_between (w 0 _) (w 3 _))))))

theorem runeLen_pos (b : UInt8) (r : Bytes) : 1 ≤ runeLen (b :: r) := (runeLen_bounds b r).1

theorem runeLen_le (s : Bytes) : runeLen s ≤ s.length := by
  cases s with
  | nil => exact Nat.le_refl 0
  | cons b r => exact (runeLen_bounds b r).2

end GoMail.Utf8
