import GoMailModel.Basic.Bytes
/-
  Model of /repo/b64linebreaker.go: `base64LineBreaker.Write` / `Close`.
  `line` is `l.line[0:l.used]`; `out` is everything handed to `l.out` so far.
  The Go recursion `l.Write(data[excess:])` terminates only because `used < 76`
  on entry; the model carries that invariant as an argument.
-/
namespace GoMail.LineBreaker
open GoMail

def maxBody : Nat := 76

structure St where
  line : Bytes
  out  : Bytes
deriving Repr, DecidableEq

/-- b64linebreaker.go:42-74 -/
def write (line out data : Bytes) (_h : line.length < 76) : St :=
  if line.length + data.length < 76 then ⟨line ++ data, out⟩
  else
    let excess := 76 - line.length
    write [] (out ++ line ++ data.take excess ++ crlf) (data.drop excess) (by simp)
termination_by data.length
decreasing_by simp [List.length_drop]; omega

theorem write_line_lt (line out data : Bytes) (h : line.length < 76) :
    (write line out data h).line.length < 76 := by
  fun_induction write line out data h with
  | case1 line out data h h2 => simpa using h2
  | case2 line out data h h2 excess ih => exact ih

/-- b64linebreaker.go:80-94 -/
def close (s : St) : Bytes :=
  if s.line.length > 0 then s.out ++ s.line ++ crlf else s.out

/-- Specification: cut into 76-byte lines, each (including a shorter last one) followed by CRLF. -/
def wrap76 (xs : Bytes) : Bytes :=
  if xs.length < 76 then (if xs.length > 0 then xs ++ crlf else [])
  else xs.take 76 ++ crlf ++ wrap76 (xs.drop 76)
termination_by xs.length
decreasing_by simp [List.length_drop]; omega

/-- A whole stream of `Write` calls (any chunking) followed by `Close`. -/
def writeAll : (line out : Bytes) → (h : line.length < 76) → List Bytes → St
  | line, out, _, [] => ⟨line, out⟩
  | line, out, h, c :: cs =>
    writeAll (write line out c h).line (write line out c h).out (write_line_lt line out c h) cs

/-- every CRLF-terminated line produced by `wrap76` has at most 76 bytes when the input is CRLF-free -/
def linesOK (n : Nat) : Bytes → Prop := fun out => ∀ l ∈ splitCRLF out, l.length ≤ n

end GoMail.LineBreaker
